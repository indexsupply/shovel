import Shovel.Model.Abi
/-
  What C10 (arbitrary bytes) and C09 (encodings) share: `scan` as a composition of `readInt`,
  `putSel`, `child` and the row choice `elemSel`, one equation per case; for a step `f`, `f_eq` =
  its value under its side conditions, `f_ok` = inversion of `f … = .ok _`, `f_cases` = no fault on
  a well-formed buffer; `Result.GetRow` / `Result.Scan` in normal form.
-/
namespace Shovel.Res

theorem bind_ok {α β} (a : α) (f : α → Res β) : (Res.ok a >>= f) = f a := rfl

theorem bind_err {α β} (f : α → Res β) : (Res.err >>= f) = .err := rfl

theorem bind_assoc {α β γ} (x : Res α) (f : α → Res β) (g : β → Res γ) :
    x >>= f >>= g = x >>= fun a => f a >>= g := by
  cases x <;> rfl

theorem ite_bind {α β} (c : Prop) [Decidable c] (x y : Res α) (f : α → Res β) :
    (if c then x else y) >>= f = if c then x >>= f else y >>= f := by
  split <;> rfl

theorem bind_eq_ok {α β} {x : Res α} {f : α → Res β} {y : β} (h : (x >>= f) = .ok y) :
    ∃ a, x = .ok a ∧ f a = .ok y := by
  cases x with
  | ok a => exact ⟨a, rfl, h⟩
  | err => cases h
  | panic => cases h
  | overread => cases h

theorem ite_eq_ok {α} {c : Prop} [Decidable c] {x y : Res α} {a : α} (hx : ∀ a, x ≠ .ok a)
    (h : (if c then x else y) = .ok a) : ¬ c ∧ y = .ok a := by
  split at h
  · exact absurd h (hx a)
  · exact ⟨‹_›, h⟩

end Shovel.Res

namespace Shovel.Abi

def Buf.WF (b : Buf) : Prop := b.data.length ≤ b.cap

/-- `int(bint.Decode(input[pos : pos+32]))` -/
def readInt (b : Buf) (off pos : Int) : Res Int :=
  if b.len off < pos + 32 then .err
  else do
    let w ← b.slice off pos (pos + 32)
    .ok (toI64 (b.word w.1 w.2))

def putSel (b : Buf) (off a hi : Int) (sel : Option Nat) (r : RowRef) (s : St) : Res St :=
  match sel with
  | none => .ok s
  | some p => do
    let rg ← b.slice off a hi
    s.setCol r p rg

/-- bytes a member of type `f` takes in the head of its tuple or array -/
def Ty.headSize (f : Ty) : Nat := if f.isStatic then f.size else 32

/-- absolute offset of the member whose head is at `pos` (tail offsets count from `start`), and the
    next head position -/
def child (b : Buf) (f : Ty) (off start pos : Int) : Res (Int × Int) :=
  if f.isStatic then
    if b.len off < pos then .err
    else do
      let off' ← b.sliceFrom off pos
      .ok (off', pos + f.size)
  else do
    let offset ← readInt b off pos
    if offset < 0 ∨ b.len off - start < offset then .err
    else do
      let off' ← b.sliceFrom off (start + offset)
      .ok (off', pos + 32)

def elemSel (e : Ty) (r : RowRef) (s : St) : St × RowRef := if !e.isArr then s.getRow else (s, r)

theorem elemSel_arr {e : Ty} (h : e.isArr = true) (r : RowRef) (s : St) : elemSel e r s = (s, r) := by
  unfold elemSel; rw [h]; rfl

theorem elemSel_row {e : Ty} (h : e.isArr = false) (r : RowRef) (s : St) :
    elemSel e r s = s.getRow := by
  unfold elemSel; rw [h]; rfl

theorem elemSel_n (e : Ty) (r : RowRef) (s : St) :
    (elemSel e r s).1.n = s.n + if e.isArr then 0 else 1 := by
  cases ha : e.isArr
  · rw [elemSel_row ha]; rfl
  · rw [elemSel_arr ha]; rfl

def arrBody (b : Buf) (e : Ty) (off start : Int) : Int → RowRef → St → Res (Int × RowRef × St) :=
  fun pos r s => do
    let c ← child b e off start pos
    let s' ← scan b e c.1 (elemSel e r s).2 (elemSel e r s).1
    .ok (c.2, (elemSel e r s).2, s')

theorem scan_stat (b : Buf) (sel : Option Nat) (off : Int) (r : RowRef) (s : St) :
    scan b (.stat sel) off r s = if b.len off < 32 then .err else putSel b off 0 32 sel r s := by
  cases sel <;> rw [scan] <;> rfl

theorem scan_dyn (b : Buf) (sel : Option Nat) (off : Int) (r : RowRef) (s : St) :
    scan b (.dyn sel) off r s = readInt b off 0 >>= fun n =>
      if n = 0 then .ok s
      else if n < 0 ∨ b.len off - 32 < n then .err
      else putSel b off 32 (32 + n) sel r s := by
  simp only [scan, readInt, putSel, Res.ite_bind, Res.bind_assoc, Res.bind_ok, Res.bind_err,
    Int.zero_add]
  cases sel <;> rfl

theorem scan_arr (b : Buf) (k : Nat) (e : Ty) (off : Int) (r : RowRef) (s : St) :
    scan b (.arr k e) off r s =
      if !e.hasSelect then .ok s
      else if k = 0 then readInt b off 0 >>= fun n => loopN n.toNat 32 r s (arrBody b e off 32)
      else loopN k 0 r s (arrBody b e off 0) := by
  unfold arrBody
  simp only [scan, elemSel, child, readInt, wrapErr, Res.ite_bind, Res.bind_assoc, Res.bind_ok,
    Res.bind_err, Int.zero_add, Int.sub_zero, Int.toNat_natCast, Prod.eta]

theorem scan_tup (b : Buf) (fs : Tys) (off : Int) (r : RowRef) (s : St) :
    scan b (.tup fs) off r s = if !fs.hasSelect then .ok s else scanTup b fs off 0 r s := by
  rw [scan]

theorem scanTup_nil (b : Buf) (off pos : Int) (r : RowRef) (s : St) :
    scanTup b .nil off pos r s = .ok s := by
  rw [scanTup]

theorem scanTup_cons (b : Buf) (f : Ty) (rest : Tys) (off pos : Int) (r : RowRef) (s : St) :
    scanTup b (.cons f rest) off pos r s =
      child b f off 0 pos >>= fun c => scan b f c.1 r s >>= fun s' => scanTup b rest off c.2 r s' := by
  simp only [scanTup, child, readInt, wrapErr, Res.ite_bind, Res.bind_assoc, Res.bind_ok,
    Res.bind_err, Int.sub_zero, Int.zero_add]

theorem arrLoop_succ (b : Buf) (e : Ty) (off start : Int) (n : Nat) (pos : Int) (r : RowRef) (s : St) :
    loopN (n + 1) pos r s (arrBody b e off start) =
      child b e off start pos >>= fun c =>
        scan b e c.1 (elemSel e r s).2 (elemSel e r s).1 >>= fun s' =>
          loopN n c.2 (elemSel e r s).2 s' (arrBody b e off start) := by
  rw [loopN, arrBody]
  cases child b e off start pos with
  | ok c => simp only [Res.bind_ok]; cases scan b e c.1 (elemSel e r s).2 (elemSel e r s).1 <;> rfl
  | _ => rfl

theorem slice_eq {b : Buf} (hb : b.WF) {off a hi : Int} (ha : 0 ≤ a) (hah : a ≤ hi)
    (hh : off + hi ≤ b.data.length) : b.slice off a hi = .ok ((off + a).toNat, (off + hi).toNat) := by
  unfold Buf.WF at hb
  unfold Buf.slice
  rw [if_neg (by omega), if_neg (by omega)]

theorem sliceFrom_eq {b : Buf} {off a : Int} (ha : 0 ≤ a) (hh : off + a ≤ b.data.length) :
    b.sliceFrom off a = .ok (off + a) := by
  unfold Buf.sliceFrom Buf.len
  rw [if_neg (by omega)]

theorem sliceFrom_ok {b : Buf} {off a o : Int} (h : b.sliceFrom off a = .ok o) :
    0 ≤ a ∧ off + a ≤ b.data.length ∧ o = off + a := by
  unfold Buf.sliceFrom Buf.len at h
  obtain ⟨hc, h⟩ := Res.ite_eq_ok nofun h
  cases h
  omega

theorem readInt_ok {b : Buf} {off pos n : Int} (h : readInt b off pos = .ok n) :
    off + pos + 32 ≤ b.data.length := by
  unfold readInt Buf.len at h
  have := (Res.ite_eq_ok nofun h).1
  omega

theorem readInt_cases {b : Buf} (hb : b.WF) (off : Int) {pos : Int} (hp : 0 ≤ pos) :
    readInt b off pos = .err ∨ ∃ n, readInt b off pos = .ok n := by
  unfold readInt
  split
  · exact .inl rfl
  · next h =>
    unfold Buf.len at h
    rw [slice_eq hb hp (by omega) (by omega)]
    exact .inr ⟨_, rfl⟩

theorem child_ok {b : Buf} {f : Ty} {off start pos : Int} {c : Int × Int}
    (h : child b f off start pos = .ok c) :
    off ≤ c.1 ∧ c.1 ≤ b.data.length ∧ off + pos ≤ b.data.length ∧ c.2 = pos + f.headSize := by
  unfold Ty.headSize
  revert h
  fun_cases child b f off start pos with
  | case1 => nofun
  | case2 hst _ =>
    intro h
    obtain ⟨o, ho, h⟩ := Res.bind_eq_ok h
    obtain ⟨h1, h2, rfl⟩ := sliceFrom_ok ho
    cases h
    exact ⟨by omega, h2, h2, by rw [if_pos hst]⟩
  | case3 hst =>
    intro h
    obtain ⟨n, hn, h⟩ := Res.bind_eq_ok h
    have := readInt_ok hn
    obtain ⟨_, h⟩ := Res.ite_eq_ok nofun h
    obtain ⟨o, ho, h⟩ := Res.bind_eq_ok h
    obtain ⟨h1, h2, rfl⟩ := sliceFrom_ok ho
    cases h
    exact ⟨by omega, h2, by omega, by rw [if_neg hst]; rfl⟩

theorem child_cases {b : Buf} (hb : b.WF) (f : Ty) (off : Int) {start pos : Int}
    (hs : 0 ≤ start) (hp : 0 ≤ pos) :
    child b f off start pos = .err ∨ ∃ c, child b f off start pos = .ok c := by
  fun_cases child b f off start pos with
  | case1 => exact .inl rfl
  | case2 _ h =>
    unfold Buf.len at h
    rw [sliceFrom_eq hp (by omega)]; exact .inr ⟨_, rfl⟩
  | case3 =>
    rcases readInt_cases hb off hp with h | ⟨n, h⟩ <;> rw [h]
    · exact .inl rfl
    · rw [Res.bind_ok]
      split
      · exact .inl rfl
      · next hn =>
        unfold Buf.len at hn
        rw [sliceFrom_eq (by omega) (by omega)]; exact .inr ⟨_, rfl⟩

theorem setCol_n {s : St} {r : RowRef} {p : Nat} {v : Nat × Nat} {s' : St}
    (h : s.setCol r p v = .ok s') : s'.n = s.n := by
  revert h
  fun_cases St.setCol s r p v with
  | case1 | case4 => intro h; cases h; rfl
  | case2 | case3 | case5 => nofun

theorem putSel_n {b : Buf} {off a hi : Int} {sel : Option Nat} {r : RowRef} {s s' : St}
    (h : putSel b off a hi sel r s = .ok s') : s'.n = s.n := by
  cases sel with
  | none => injection h with h; rw [h]
  | some p =>
    obtain ⟨rg, _, h⟩ := Res.bind_eq_ok h
    exact setCol_n h

theorem getRow_eq {s : St} (hn : s.n ≤ s.coll.length) (hw : ∀ row ∈ s.coll, row.length = s.ncols) :
    ∃ c, (c = s.coll ∨ c = s.coll ++ [emptyRow s.ncols]) ∧ s.n < c.length ∧
      (∀ row ∈ c, row.length = s.ncols) ∧
      s.getRow = ({ s with coll := c.set s.n (emptyRow s.ncols), n := s.n + 1 }, .coll s.n) := by
  have key : ∀ c, (c = s.coll ∨ c = s.coll ++ [emptyRow s.ncols]) → s.n < c.length →
      (∀ row ∈ c, row.length = s.ncols) ∧
      (c.getD s.n []).map (fun _ => (none : Option (Nat × Nat))) = emptyRow s.ncols := by
    intro c hc hlt
    have hlen : ∀ row ∈ c, row.length = s.ncols := by
      rcases hc with rfl | rfl
      · exact hw
      · intro row hr
        rcases List.mem_append.mp hr with h | h
        · exact hw _ h
        · rw [List.mem_singleton.mp h]; simp [emptyRow]
    refine ⟨hlen, ?_⟩
    rw [List.getD_eq_getElem?_getD, List.getElem?_eq_getElem hlt, Option.getD_some, List.map_const',
      hlen _ (List.getElem_mem hlt)]
    rfl
  unfold St.getRow
  simp only [Nat.add_sub_cancel]
  split
  · have hlt : s.n < (s.coll ++ [emptyRow s.ncols]).length := by simp; omega
    exact ⟨_, .inr rfl, hlt, (key _ (.inr rfl) hlt).1, by rw [(key _ (.inr rfl) hlt).2]⟩
  · exact ⟨_, .inl rfl, by omega, (key _ (.inl rfl) (by omega)).1, by rw [(key _ (.inl rfl) (by omega)).2]⟩

def bcastCell (c sg : Option (Nat × Nat)) : Option (Nat × Nat) :=
  match sg with
  | some (lo, hi) => if hi - lo > 0 then some (lo, hi) else c
  | none => c

def bcast (single row : Row) : Row := (row.zip single).map fun p => bcastCell p.1 p.2

def oneRow (s1 : St) : St := if s1.n = 0 then s1.getRow.1 else s1

/-- `resultScan` after a successful `scan` (`resultScan_eq`) -/
def finish (s1 : St) : St :=
  let s2 := oneRow s1
  { s2 with coll := (s2.coll.take s2.n).map (bcast s2.single) ++ s2.coll.drop s2.n }

theorem resultScan_eq (b : Buf) (t : Ty) (s : St) :
    resultScan b t s =
      scan b t 0 .single { s with n := 0, single := s.single.map fun _ => none } >>= fun s1 =>
        .ok (finish s1) := by
  unfold resultScan
  dsimp only
  cases scan b t 0 .single { s with n := 0, single := s.single.map fun _ => none } <;> rfl

theorem finish_rows {s1 : St} (hn : (oneRow s1).n ≤ (oneRow s1).coll.length) :
    (finish s1).rows = ((oneRow s1).coll.take (oneRow s1).n).map (bcast (oneRow s1).single) := by
  unfold finish St.rows
  dsimp only
  rw [List.take_left' (by rw [List.length_map, List.length_take]; omega)]

mutual
/-- **Ty.static_size** (C10): the array loop advances by at least 32 per element
    (`Ty.headSize_ge`); the row bound of C10 and the length bound of C09 (`headLenArr_ge`) rest on
    it -/
theorem Ty.static_size (t : Ty) (h1 : t.isStatic = true) (h2 : t.hasSelect = true) : 32 ≤ t.size := by
  cases t with
  | stat sel => simp [Ty.size]
  | dyn sel => cases h1
  | arr k e =>
    unfold Ty.isStatic at h1
    split at h1
    · cases h1
    · next hk =>
      have := Ty.static_size e h1 h2
      unfold Ty.size
      have : 1 * e.size ≤ k * e.size := Nat.mul_le_mul_right _ (by omega)
      omega
  | tup fs =>
    unfold Ty.size
    exact Tys.static_size fs h1 h2
theorem Tys.static_size (fs : Tys) (h1 : fs.allStatic = true) (h2 : fs.hasSelect = true) :
    32 ≤ fs.size := by
  cases fs with
  | nil => cases h2
  | cons f rest =>
    have h1' : f.isStatic = true ∧ rest.allStatic = true := Bool.and_eq_true_iff.mp h1
    have h2' : f.hasSelect = true ∨ rest.hasSelect = true := Bool.or_eq_true_iff.mp h2
    unfold Tys.size
    rcases h2' with h | h
    · have := Ty.static_size f h1'.1 h; omega
    · have := Tys.static_size rest h1'.2 h; omega
end

theorem Ty.headSize_ge {e : Ty} (h : e.hasSelect = true) : 32 ≤ e.headSize := by
  unfold Ty.headSize
  split
  · next hs => exact Ty.static_size e hs h
  · omega

end Shovel.Abi
