import Shovel.Proofs.AbiBase
/-
  C09: the layout of `enc` — heads and tails of tuples and arrays one member at a time, static
  sizes, head lengths.  Independent of `AbiState`.
-/
namespace Shovel.Abi

def headOf (f : Ty) (v : Val) (T : Nat) : List Nat := if f.isStatic then enc f v else word32 T
def tailOf (f : Ty) (v : Val) : List Nat := if f.isStatic then [] else enc f v

theorem encTupParts_cons (f : Ty) (fr : Tys) (v : Val) (vr : Vals) (T : Nat) :
    encTupParts (.cons f fr) (.cons v vr) T =
      (headOf f v T ++ (encTupParts fr vr (T + (tailOf f v).length)).1,
       tailOf f v ++ (encTupParts fr vr (T + (tailOf f v).length)).2) := by
  rw [encTupParts, headOf, tailOf]
  split <;> rfl

theorem encArrParts_cons (e : Ty) (v : Val) (vr : Vals) (T : Nat) :
    encArrParts e (.cons v vr) T =
      (headOf e v T ++ (encArrParts e vr (T + (tailOf e v).length)).1,
       tailOf e v ++ (encArrParts e vr (T + (tailOf e v).length)).2) := by
  rw [encArrParts, headOf, tailOf]
  split <;> rfl

theorem encArrParts_nil (e : Ty) (T : Nat) : encArrParts e .nil T = ([], []) := by
  rw [encArrParts]

theorem encTupParts_nil (vs : Vals) (T : Nat) : encTupParts .nil vs T = ([], []) := by
  rw [encTupParts]
  intro _ _ _ _ h; cases h

theorem encArrParts_static (e : Ty) (hs : e.isStatic = true)
    (he : ∀ v, WellTyped e v = true → (enc e v).length = e.size) :
    (vs : Vals) → wellTypedAll e vs = true → ∀ T,
      (encArrParts e vs T).2 = [] ∧ (encArrParts e vs T).1.length = vs.length * e.size
  | .nil, _, T => by simp [encArrParts_nil, Vals.length]
  | .cons v vr, hwt, T => by
    rw [wellTypedAll, Bool.and_eq_true] at hwt
    have ih := encArrParts_static e hs he vr hwt.2 T
    rw [encArrParts_cons, headOf, tailOf, if_pos hs, if_pos hs]
    simp only [List.length_append, he v hwt.1, ih.1, ih.2, Vals.length, List.length_nil,
      Nat.add_zero, List.nil_append, true_and]
    rw [Nat.add_mul]; omega

mutual
theorem enc_static_length : (t : Ty) → (v : Val) → t.isStatic = true → WellTyped t v = true →
    (enc t v).length = t.size
  | .stat _, v, _, hwt => by
    cases v <;> simp [WellTyped] at hwt
    simp [enc, Ty.size, hwt.1]
  | .dyn _, _, hs, _ => by cases hs
  | .arr k e, v, hs, hwt => by
    cases v <;> simp only [WellTyped, Bool.false_eq_true] at hwt
    rename_i vs
    rw [Bool.and_eq_true] at hwt
    cases k with
    | zero => cases hs
    | succ k =>
      have hse : e.isStatic = true := hs
      have h := encArrParts_static e hse (fun v hv => enc_static_length e v hse hv) vs hwt.2
        (headLenArr e vs)
      have hl : vs.length = k + 1 := by simpa using hwt.1
      rw [enc, encArr, h.1, List.append_nil, h.2, Ty.size, hl]
  | .tup fs, v, hs, hwt => by
    cases v <;> simp only [WellTyped, Bool.false_eq_true] at hwt
    rename_i vs
    have hs' : fs.allStatic = true := hs
    have h := encTupParts_static fs vs hs' hwt (headLenTup fs)
    rw [enc, encTup, h.1, List.append_nil, h.2, Ty.size]
theorem encTupParts_static : (fs : Tys) → (vs : Vals) → fs.allStatic = true →
    wellTypedTup fs vs = true → ∀ T,
      (encTupParts fs vs T).2 = [] ∧ (encTupParts fs vs T).1.length = fs.size
  | .nil, vs, _, _, T => by simp [encTupParts_nil, Tys.size]
  | .cons f fr, vs, hs, hwt, T => by
    cases vs with
    | nil => simp [wellTypedTup] at hwt
    | cons v vr =>
      rw [wellTypedTup, Bool.and_eq_true] at hwt
      rw [Tys.allStatic, Bool.and_eq_true] at hs
      have ih := encTupParts_static fr vr hs.2 hwt.2 T
      have h1 := enc_static_length f v hs.1 hwt.1
      rw [encTupParts_cons, headOf, tailOf, if_pos hs.1, if_pos hs.1]
      simp only [List.length_append, h1, ih.1, ih.2, Tys.size, List.length_nil, Nat.add_zero,
        List.nil_append, true_and]
end

theorem headOf_length {f : Ty} {v : Val} (hwt : WellTyped f v = true) (T : Nat) :
    (headOf f v T).length = f.headSize := by
  unfold headOf Ty.headSize
  split
  · next hs => exact enc_static_length f v hs hwt
  · exact word32_length T

theorem encTupParts_head_length : (fs : Tys) → (vs : Vals) → wellTypedTup fs vs = true → ∀ T,
    (encTupParts fs vs T).1.length = headLenTup fs
  | .nil, vs, _, T => by simp [encTupParts_nil, headLenTup]
  | .cons f fr, vs, hwt, T => by
    cases vs with
    | nil => simp [wellTypedTup] at hwt
    | cons v vr =>
      rw [wellTypedTup, Bool.and_eq_true] at hwt
      rw [encTupParts_cons, headLenTup, List.length_append, headOf_length hwt.1,
        encTupParts_head_length fr vr hwt.2]
      rfl

theorem encArrParts_head_length (e : Ty) : (vs : Vals) → wellTypedAll e vs = true → ∀ T,
    (encArrParts e vs T).1.length = headLenArr e vs
  | .nil, _, T => by simp [encArrParts_nil, headLenArr]
  | .cons v vr, hwt, T => by
    rw [wellTypedAll, Bool.and_eq_true] at hwt
    rw [encArrParts_cons, headLenArr, List.length_append, headOf_length hwt.1,
      encArrParts_head_length e vr hwt.2]
    rfl

theorem statics_select_size : (fs : Tys) → fs.allStatic = true → fs.hasSelect = true → 32 ≤ fs.size :=
  Tys.static_size

theorem headLenArr_ge (e : Ty) (hsel : e.hasSelect = true) : (vs : Vals) →
    32 * vs.length ≤ headLenArr e vs
  | .nil => Nat.le_refl 0
  | .cons v vr => by
    have := headLenArr_ge e hsel vr
    have := Ty.headSize_ge hsel
    rw [headLenArr, Vals.length]
    unfold Ty.headSize at this
    omega

example : True := trivial

end Shovel.Abi
