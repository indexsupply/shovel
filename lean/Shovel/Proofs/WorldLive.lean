import Shovel.Proofs.WorldInv
/-
  What a fault-free iteration does (the lemmas of `WorldInv` only say what it may do) when the
  source has settled on a chain and answers: unwinding orphaned positions, one per iteration, until
  the growth invariant holds (C03); and, under the growth invariant, planning, loading and
  committing the next blocks when every call is answered (liveness).
-/
namespace Shovel.World

/-- the source has settled on `c` and answers: every `Latest` answer is the true head of `c`, and no
    `Hash` or `Get` answer is a failure (that the answers are `c`'s is `ScriptOK`) -/
structure Honest (c : Chain) (sc : Script) : Prop where
  latest : ∀ a ∈ sc.latest, a = some (c.head, c.hashAt c.head)
  hash : ∀ p ∈ sc.hash, p.2 ≠ none
  gets : ∀ q ∈ sc.gets, q.2 ≠ none

theorem Honest.mono {c : Chain} {a b : Script} (h : Honest c b) (hle : a.le b) : Honest c a :=
  ⟨fun x hx => h.latest x (hle.1 x hx), fun x hx => h.hash x (hle.2.1 x hx), fun x hx => h.gets x (hle.2.2 x hx)⟩

/-- with `t.stop = 0` and no dependencies the target is the head `H` the source reports -/
theorem planK_honest {t : Task} {s : St} {x : Cur} {H : Nat} {hh : String}
    (hx : s.view.latestCur t.src t.ig = some x) (hstop : t.stop = 0) (hdeps : t.deps = [])
    (hb : 1 ≤ t.batch) (hlat : ∀ a ∈ s.script.latest, a = some (H, hh)) (hlt : x.num < H) :
    (∃ r, (∀ K, planK t none K s = r) ∧ r.scriptOk = false) ∨
    ∃ s1, Same s s1 ∧ ∀ K, planK t none K s = K x.num x.hash (min (H - x.num) t.batch) s1 := by
  have hl := localRes_cur (s := { s with nLatest := s.nLatest + 1 }) hx
  cases htl : takeLatest { s with nLatest := s.nLatest + 1 } with
  | mk a s' =>
  obtain ⟨_, hm⟩ := htl ▸ takeLatest_spec { s with nLatest := s.nLatest + 1 }
  rcases a with _ | a
  · refine .inl ⟨{ outcome := .err, db := s'.db, scriptOk := false }, fun K => ?_, rfl⟩
    unfold planK
    simp only [hit_none, Bool.false_eq_true, ↓reduceIte, hl, hstop, gt_iff_lt, Nat.lt_irrefl, false_and, htl]
  · obtain rfl := hlat a (hm a rfl)
    have hc : clip t H = H := by unfold clip; simp [hstop]
    obtain ⟨hg, hK⟩ := planK_go_of (hit_none _) hl (by omega) htl (depStep_nodeps hdeps none H s') (by omega)
      (by omega)
    exact .inr ⟨s', hg.same, hc ▸ hK⟩

def keysOf (b : Blk) : List String := b.rows.map (·.1)

theorem newRows_keys (t : Task) (bs : List Blk) : (newRowsOf t bs).map (·.key) = bs.flatMap keysOf := by
  unfold newRowsOf
  rw [List.map_flatMap]
  congr 1
  funext b
  unfold rowsFor keysOf
  rw [List.map_map]
  rfl

theorem mem_rows_key {t : Task} {bs : List Blk} {x : TRow} (h : x ∈ bs.flatMap (rowsFor t)) :
    x.key ∈ bs.flatMap keysOf ∧ x.table = t.table := by
  obtain ⟨b, hb, kp, hk, rfl⟩ := mem_newRowsOf.mp h
  exact ⟨List.mem_flatMap.mpr ⟨b, hb, List.mem_map.mpr ⟨kp, hk, rfl⟩⟩, rfl⟩

theorem noclash {t : Task} {c : Chain} {v : DB} {k : Nat} (hk0 : 1 ≤ k)
    (hinv : Inv t c (t.start - 1) v) (hk : KeysOK t c v) :
    clashOf v (newRowsOf t (c.slice (pos t v + 1) k)) = false ∧ curClash t v (pos t v + k) = false := by
  have hi3 := hinv.rows
  obtain ⟨hk1, hk2⟩ := hk
  obtain ⟨htop1, htop2⟩ := hinv.pos_ge
  change (c.blks.flatMap keysOf).Nodup at hk1
  change ∀ r ∈ v.rows, mine t r = false → r.table = t.table → r.key ∉ c.blks.flatMap keysOf at hk2
  generalize pos t v = ln at *
  generalize t.start - 1 = s0 at *
  -- old and new blocks together are a slice of the chain
  have hcat : c.slice (s0 + 1) (ln - s0 + k) = c.slice (s0 + 1) (ln - s0) ++ c.slice (ln + 1) k := by
    rw [slice_append, Nat.add_right_comm, Nat.add_sub_cancel' htop1]
  have hnd : ((c.slice (s0 + 1) (ln - s0)).flatMap keysOf ++ (c.slice (ln + 1) k).flatMap keysOf).Nodup := by
    rw [← List.flatMap_append, ← hcat]
    exact (sublist_flatMap keysOf (slice_sublist c _ _)).nodup hk1
  obtain ⟨_, hnd2, hdisj⟩ := List.nodup_append.mp hnd
  constructor
  · unfold clashOf
    rw [Bool.or_eq_false_iff]
    constructor
    · rw [List.any_eq_false]
      intro r hr
      rw [Bool.not_eq_true, List.any_eq_false]
      intro o ho hclash
      obtain ⟨hrk, hrt⟩ := mem_rows_key hr
      simp only [Bool.and_eq_true, beq_iff_eq] at hclash
      cases hm : mine t o with
      | true =>
        have : o ∈ v.rows.filter (mine t) := List.mem_filter.mpr ⟨ho, hm⟩
        rw [hi3] at this
        exact hdisj _ (mem_rows_key this).1 _ hrk hclash.2
      | false =>
        refine hk2 o ho hm (hclash.1.trans hrt) ?_
        rw [hclash.2]
        exact (sublist_flatMap keysOf (slice_sublist c _ _)).mem hrk
    · rw [newRows_keys, eraseDups_nodup _ hnd2, ← newRows_keys t, List.length_map]
      simp
  · unfold curClash
    rw [List.any_eq_false]
    intro o ho hclash
    simp only [Bool.and_eq_true, beq_iff_eq] at hclash
    have := htop2 o (mem_mine_cur.mpr ⟨ho, hclash.1.1, hclash.1.2⟩)
    omega

theorem commit_ok {t : Task} {c : Chain} {v : DB} (hc : c.WF) (hinv : Inv t c (t.start - 1) v) (hk : KeysOK t c v)
    {s : St} (hv : s.view = v) {k : Nat} (hk1 : 1 ≤ k) (hhd : pos t v + k ≤ c.head) :
    ∃ last, last.num = pos t v + k ∧ last.hash = c.hashAt (pos t v + k) ∧
      commitStep t none s (c.slice (pos t v + 1) k) =
        { outcome := .ok last.num, db := committed t v (c.slice (pos t v + 1) k) last, mid := some v } := by
  obtain ⟨last, hl1, hl2, hl3⟩ := slice_last hc (pos t v) k hk1 hhd
  obtain ⟨c1, c2⟩ := noclash hk1 hinv hk
  subst hv
  exact ⟨last, hl2, hl3, commitStep_none t s _ last hl1 c1 (hl2 ▸ c2)⟩

def isAbove (g : Cur) (x : Cur) : Bool := decide (g.num < x.num)

/-- the rows of `t` that unwinding to `g` leaves -/
def keep (t : Task) (g : Cur) (r : TRow) : Bool := mine t r && decide (r.blk ≤ g.num)

/-- the view while a reorg is unwound to the fork position `g`: positions up to `g` are blocks of `c`,
    those above are orphans; `proj` is what the rows up to `g` are (and stay) -/
structure UInv (t : Task) (c : Chain) (g : Cur) (proj : List TRow) (v : DB) : Prop where
  gmem : g ∈ v.cur.filter (mineC t)
  nodup : ((v.cur.filter (mineC t)).map (·.num)).Nodup
  below : ∀ x ∈ v.cur.filter (mineC t), x.num ≤ g.num →
    t.start - 1 < x.num ∧ x.num ≤ c.head ∧ x.hash = c.hashAt x.num
  above : ∀ x ∈ v.cur.filter (mineC t), g.num < x.num → x.hash ≠ c.hashAt x.num
  /-- the source is ahead of every position: each iteration plans a `load` -/
  grow : ∀ x ∈ v.cur.filter (mineC t), x.num < c.head
  rows : v.rows.filter (keep t g) = proj
  /-- `KeysOK` constrains foreign rows only, so it holds with the orphaned rows of `t` still there;
      they are deleted before anything is inserted -/
  keys : KeysOK t c v
  /-- once no orphaned position is left, no row of `t` lies above `g`: `Task.Delete` removes the rows
      down to one past the position that remains -/
  none : (∀ x ∈ v.cur.filter (mineC t), x.num ≤ g.num) → ∀ r ∈ v.rows, mine t r = true → r.blk ≤ g.num

/-- the measure of `unwind_loop`: each unwinding iteration deletes at least the newest position -/
def orphans (t : Task) (g : Cur) (v : DB) : Nat := ((v.cur.filter (mineC t)).filter (isAbove g)).length

theorem delView_mine_cur (t : Task) (v : DB) (n : Nat) :
    (delView t v n).cur.filter (mineC t) = (v.cur.filter (mineC t)).filter (fun y => decide (y.num < n)) := by
  rw [delView_cur, List.filter_filter, List.filter_filter]
  apply List.filter_congr
  intro y _
  cases mineC t y
  · simp
  · by_cases hlt : y.num < n <;> simp [hlt]
    omega

theorem UInv.delete {t : Task} {c : Chain} {g : Cur} {proj : List TRow} {v : DB}
    (h : UInv t c g proj v) (x : Cur) (hx : v.latestCur t.src t.ig = some x) (hgx : g.num < x.num) :
    UInv t c g proj (delView t v x.num) ∧ orphans t g (delView t v x.num) < orphans t g v := by
  obtain ⟨hxm, hxmax⟩ := latestCur_mem hx
  have hcs := delView_mine_cur t v x.num
  have hmem : ∀ y, y ∈ (delView t v x.num).cur.filter (mineC t) ↔ y ∈ v.cur.filter (mineC t) ∧ y.num < x.num := by
    intro y; rw [hcs, List.mem_filter]; simp
  have hg' : g ∈ (delView t v x.num).cur.filter (mineC t) := (hmem g).mpr ⟨h.gmem, hgx⟩
  -- the previous position
  have hv1 : (v.delCur t.src t.ig x.num).cur = (delView t v x.num).cur := rfl
  obtain ⟨y, hy⟩ := latestCur_of_mem (v := v.delCur t.src t.ig x.num) (hv1 ▸ hg')
  obtain ⟨hym, hymax⟩ := latestCur_mem hy
  rw [hv1] at hym hymax
  have hyg : g.num ≤ y.num := hymax g hg'
  have hyx : y.num < x.num := ((hmem y).mp hym).2
  have hrows : (delView t v x.num).rows = v.rows.filter fun r => !(mine t r && decide (r.blk ≥ y.num + 1)) := by
    rw [delView_rows, show delN t (v.delCur t.src t.ig x.num) x.num = y.num + 1 by unfold delN; rw [hy]; simp only; omega]
  constructor
  · refine ⟨hg', ?_, fun z hz => h.below z ((hmem z).mp hz).1, fun z hz => h.above z ((hmem z).mp hz).1,
      fun z hz => h.grow z ((hmem z).mp hz).1, ?_, ⟨h.keys.1, fun r hr => h.keys.2 r ?_⟩, fun hall r hr hm => ?_⟩
    · rw [hcs]
      exact (List.Sublist.map _ List.filter_sublist).nodup h.nodup
    · rw [hrows, List.filter_filter, ← h.rows]
      apply List.filter_congr
      intro r _
      unfold keep
      cases mine t r <;> simp
      omega
    · rw [hrows] at hr
      exact (List.mem_filter.mp hr).1
    · have := hall y hym
      rw [hrows] at hr
      have := (List.mem_filter.mp hr).2
      simp only [hm, Bool.true_and, Bool.not_eq_eq_eq_not, Bool.not_true, decide_eq_false_iff_not] at this
      omega
  · unfold orphans
    rw [hcs]
    have hsub : (((v.cur.filter (mineC t)).filter fun y => decide (y.num < x.num)).filter (isAbove g)).Sublist
        ((v.cur.filter (mineC t)).filter (isAbove g)) := List.Sublist.filter _ List.filter_sublist
    refine Nat.lt_of_le_of_ne hsub.length_le fun heq => ?_
    -- `x` itself is an orphan that went
    have hx1 : x ∈ (v.cur.filter (mineC t)).filter (isAbove g) :=
      List.mem_filter.mpr ⟨hxm, by simp [isAbove, hgx]⟩
    rw [← hsub.eq_of_length heq] at hx1
    have := (List.mem_filter.mp (List.mem_filter.mp hx1).1).2
    simp at this

theorem UInv.inv {t : Task} {c : Chain} {g : Cur} {v : DB} (hstart : 0 < t.start)
    (h : UInv t c g ((c.slice t.start (g.num - (t.start - 1))).flatMap (rowsFor t)) v)
    (x : Cur) (hx : v.latestCur t.src t.ig = some x) (hxg : x.num ≤ g.num) :
    Inv t c (t.start - 1) v ∧ x.num = g.num := by
  obtain ⟨hxm, hxmax⟩ := latestCur_mem hx
  have hgx : g.num ≤ x.num := hxmax g h.gmem
  have hall : ∀ y ∈ v.cur.filter (mineC t), y.num ≤ g.num := fun y hy => by
    have := hxmax y hy; omega
  refine ⟨?_, by omega⟩
  rw [Inv_iff]
  refine ⟨fun y hy => h.below y hy (hall y hy), h.nodup, ?_⟩
  have e1 : v.rows.filter (mine t) = v.rows.filter (keep t g) := by
    apply List.filter_congr
    intro r hr
    unfold keep
    cases hm : mine t r with
    | false => rfl
    | true => simp [h.none hall r hr hm]
  rw [e1, h.rows]
  show _ = (c.slice (t.start - 1 + 1) (pos t v - (t.start - 1))).flatMap (rowsFor t)
  rw [pos_some hx, Nat.sub_add_cancel hstart, Nat.le_antisymm hxg hgx]

/-- C03: one orphaned position is unwound per iteration, then the next blocks are committed.
    `orphans + 1 ≤ fuel`: the `+ 1` is the committing iteration; `converge` runs the loop with 1001,
    the code's `for reorgs := 0; reorgs <= 1000; reorgs++` -/
theorem unwind_loop {t : Task} {c : Chain} {g : Cur} (A : Std t c) (hdeps : t.deps = []) (hstop : t.stop = 0) :
    ∀ fuel (s : St),
      UInv t c g ((c.slice t.start (g.num - (t.start - 1))).flatMap (rowsFor t)) s.view →
      ScriptOK c s.script → Honest c s.script → orphans t g s.view + 1 ≤ fuel →
      (converge.loop t none fuel s).scriptOk = true →
      (∃ n, (converge.loop t none fuel s).outcome = .ok n ∧ g.num < n) ∧
      Inv t c (t.start - 1) (converge.loop t none fuel s).db ∧
      (converge.loop t none fuel s).db.rows.filter (keep t g) =
        (c.slice t.start (g.num - (t.start - 1))).flatMap (rowsFor t) := by
  intro fuel
  induction fuel with
  | zero => intro s _ _ _ h; omega
  | succ n ih =>
    intro s hu hsc hh hfuel hok
    rw [loop_succ] at hok ⊢
    obtain ⟨x, hx⟩ := latestCur_of_mem hu.gmem
    obtain ⟨hxm, hxmax⟩ := latestCur_mem hx
    have hxh : x.num < c.head := hu.grow x hxm
    unfold iterK at hok ⊢
    rcases planK_honest hx hstop hdeps A.batch hh.latest hxh
      with ⟨r, hp, hr⟩ | ⟨s1, hs1, hp⟩
    · rw [hp, hr] at hok; cases hok
    have hs2 := load_same t s1 x.hash (x.num + 1) (min (c.head - x.num) t.batch)
    cases hl : load t s1 x.hash (x.num + 1) (min (c.head - x.num) t.batch) with
    | mk lr s2 =>
    rw [hl] at hs2
    rw [hp, hl] at hok ⊢
    have hss : Same s s2 := hs1.trans hs2
    have hb := A.batch
    have hhead := A.head
    rcases load_chain A.wf A.toSized (hsc.mono hs1.script) (by omega) (by omega) (by omega) hl
      with ⟨rfl, _⟩ | ⟨_, h⟩ | ⟨k, hk1, hk2, hk3, ⟨rfl, hne'⟩ | ⟨rfl, heq⟩⟩
    · cases hok
    · rw [go_noerr _ s1 [] false (hh.mono hs1.script).gets] at h; cases h
    · -- an orphan on top: unwind it and loop
      simp only [afterLoad, delK_none] at hok ⊢
      have hgx' : g.num < x.num := Nat.lt_of_not_le fun hle => hne' (hu.below x hxm hle).2.2
      obtain ⟨hu', horph⟩ := hu.delete x hx hgx'
      rw [← hss.view] at hu' horph
      exact ih _ hu' (hsc.mono hss.script) (hh.mono hss.script) (by simp only; rw [hss.view] at horph ⊢; omega) hok
    · -- the top is canonical: no orphan is left, index the next blocks
      have hxg : x.num ≤ g.num := Nat.le_of_not_lt fun hlt => hu.above x hxm hlt heq
      obtain ⟨hinv, hxeq⟩ := hu.inv A.start x hx hxg
      have hpos := pos_some (t := t) hx
      obtain ⟨last, hl1, hl2, hcs⟩ := commit_ok A.wf hinv hu.keys hss.view hk1 (by omega)
      rw [hpos] at hl1 hcs
      simp only [afterLoad, hcs] at hok ⊢
      refine ⟨⟨last.num, rfl, by omega⟩, ?_, ?_⟩
      · have := Inv_committed hinv hk1 (by omega) (hpos ▸ hl1) (by rw [hl2, hl1, hpos])
        rwa [hpos] at this
      · show List.filter _ (s.view.rows ++ newRowsOf t _) = _
        rw [List.filter_append, hu.rows, List.append_right_eq_self, List.filter_eq_nil_iff]
        intro r hr
        obtain ⟨b, hb1, hb2⟩ := newRows_blk hr
        have := (mem_slice_num A.wf hb1).1
        simp [keep]
        intro _; omega

-- `_full`: every call is answered; consuming an entry does not disturb lookups under another key

theorem localRes_full {t : Task} {c : Chain} (s : St) (hstart : 0 < t.start)
    (hinv : ∀ x ∈ s.view.cur.filter (mineC t), t.start - 1 < x.num ∧ x.num ≤ c.head ∧ x.hash = c.hashAt x.num)
    (hhash : s.view.latestCur t.src t.ig = none →
      s.script.hash.find? (fun g => g.1 == t.start - 1) = some (t.start - 1, some (c.hashAt (t.start - 1)))) :
    ∃ s', localRes t s = (some (some (pos t s.view, c.hashAt (pos t s.view))), s') ∧
      s'.script.latest = s.script.latest ∧ s'.script.gets = s.script.gets := by
  cases hl : s.view.latestCur t.src t.ig with
  | some x =>
    rw [pos_some hl, ← (hinv x (latestCur_mem hl).1).2.2]
    exact ⟨s, localRes_cur hl, rfl, rfl⟩
  | none =>
    unfold localRes
    simp only [hl, gt_iff_lt, hstart, ↓reduceIte, pos_none hl, takeHash, hhash hl]
    exact ⟨_, rfl, rfl, rfl⟩

theorem planK_full {t : Task} {c : Chain} (s : St) (n : Nat) (h0 : String) (rest : List (Option (Nat × String)))
    (hstart : 0 < t.start) (hdeps : t.deps = [])
    (hinv : ∀ x ∈ s.view.cur.filter (mineC t), t.start - 1 < x.num ∧ x.num ≤ c.head ∧ x.hash = c.hashAt x.num)
    (hhash : s.view.latestCur t.src t.ig = none →
      s.script.hash.find? (fun g => g.1 == t.start - 1) = some (t.start - 1, some (c.hashAt (t.start - 1))))
    (hlat : s.script.latest = some (n, h0) :: rest)
    (hnd : ¬ (t.stop > 0 ∧ pos t s.view ≥ t.stop)) (hb : 1 ≤ t.batch) (hlt : pos t s.view < clip t n) :
    ∃ s1, Same s s1 ∧ s1.script.gets = s.script.gets ∧ ∀ K, planK t none K s =
      K (pos t s.view) (c.hashAt (pos t s.view)) (min (clip t n - pos t s.view) t.batch) s1 := by
  obtain ⟨s', hl, hlat', hgets'⟩ :=
    localRes_full { s with nLatest := s.nLatest + 1 } hstart hinv hhash
  have htl : takeLatest s' = (some (some (n, h0)), { s' with script := { s'.script with latest := rest } }) := by
    unfold takeLatest
    rw [hlat', hlat]
  obtain ⟨hg, hK⟩ := planK_go_of (hit_none _) hl hnd htl (depStep_nodeps hdeps none n _) hlt
    (by dsimp only; omega)
  exact ⟨_, hg.same, hgets', hK⟩

theorem go_full {c : Chain} : ∀ (ps : List (Nat × Nat)) (st : Nat) (s : St) (acc : List Blk) (e se : Bool),
    Consec st ps →
    (∀ p ∈ ps, s.script.gets.find? (fun g => g.1 == p) = some (p, some (c.slice p.1 p.2))) →
    (load.go ps s acc e se).2.1 = e ∧ (load.go ps s acc e se).2.2.1 = se
  | [], _, s, acc, e, se, _, _ => by unfold load.go; exact ⟨rfl, rfl⟩
  | (m, n) :: rest, st, s, acc, e, se, hcs, hg => by
    obtain ⟨rfl, hn, hcs⟩ := hcs
    have h1 := hg (m, n) (List.mem_cons_self ..)
    unfold load.go
    simp only [takeGet, h1]
    apply go_full rest (m + n) _ _ e se hcs
    intro p hp
    have hlow := (consec_lower _ _ hcs p hp).1
    show (s.script.gets.erase ((m, n), some (c.slice m n))).find? (fun g => g.1 == p) = _
    rw [find?_erase_ne]
    · exact hg p (List.mem_cons_of_mem _ hp)
    · show ((m, n) == p) = false
      rw [beq_eq_false_iff_ne]
      intro h; rw [← h] at hlow; simp only at hlow; omega

theorem load_full {c : Chain} (hc : c.WF) {t : Task} (hz : Sized t) (s : St) (st lim : Nat)
    (hsc : ScriptOK c s.script) (hl : 1 ≤ lim) (hlb : lim ≤ t.batch) (hs : st + lim < 2 ^ 63) (hst : 1 ≤ st)
    (hhd : st + lim - 1 ≤ c.head)
    (hgets : ∀ m n, st ≤ m → 1 ≤ n → m + n - 1 ≤ c.head →
      s.script.gets.find? (fun g => g.1 == (m, n)) = some ((m, n), some (c.slice m n))) :
    ∃ k s2, 1 ≤ k ∧ k ≤ lim ∧ st + k - 1 ≤ c.head ∧
      load t s (c.hashAt (st - 1)) st lim = (.blocks (c.slice st k), s2) ∧ s2.view = s.view := by
  have hsame := load_same t s (c.hashAt (st - 1)) st lim
  cases h : load t s (c.hashAt (st - 1)) st lim with
  | mk lr s2 =>
  rw [h] at hsame
  obtain ⟨_, _, hp3⟩ := parts_spec t.batch t.conc st lim hz.batch hz.conc hl hs hz.cb
  obtain ⟨he, hse⟩ := go_full (parts t.batch t.conc st lim) st s [] false false hp3 (by
    intro p hp
    obtain ⟨q1, q2⟩ := consec_lower _ _ hp3 p hp
    have q3 := parts_upper t.batch t.conc st lim hz.batch hz.conc hlb hz.cb p hp
    exact hgets p.1 p.2 q1 q2 (by omega))
  rcases load_chain hc hz hsc hl hs hst h with ⟨_, h'⟩ | ⟨_, h'⟩ | ⟨k, hk1, hk2, hk3, ⟨_, hne⟩ | ⟨rfl, _⟩⟩
  · rw [hse] at h'; cases h'
  · rw [he] at h'; cases h'
  · exact absurd rfl hne
  · exact ⟨k, s2, hk1, hk2, hk3, rfl, hsame.view⟩

theorem iter_full {t : Task} {c : Chain} (A : Std t c) (hdeps : t.deps = []) (s : St) (n : Nat) (h0 : String)
    (rest : List (Option (Nat × String))) (hsc : ScriptOK c s.script)
    (hinv : Inv t c (t.start - 1) s.view) (hk : KeysOK t c s.view)
    (hhash : s.view.latestCur t.src t.ig = none →
      s.script.hash.find? (fun g => g.1 == t.start - 1) = some (t.start - 1, some (c.hashAt (t.start - 1))))
    (hlat : s.script.latest = some (n, h0) :: rest) (hn : n ≤ c.head)
    (hgets : ∀ m k, pos t s.view < m → 1 ≤ k → m + k - 1 ≤ c.head →
      s.script.gets.find? (fun g => g.1 == (m, k)) = some ((m, k), some (c.slice m k)))
    (hnd : ¬ (t.stop > 0 ∧ pos t s.view ≥ t.stop)) (hlt : pos t s.view < clip t n) :
    ∃ k last, 1 ≤ k ∧ pos t s.view + k ≤ clip t n ∧ last.num = pos t s.view + k ∧
      ∀ k', iterK t none k' s =
        { outcome := .ok last.num, db := committed t s.view (c.slice (pos t s.view + 1) k) last, mid := some s.view } := by
  obtain ⟨s1, hs1, hg1, hplan⟩ :=
    planK_full s n h0 rest A.start hdeps hinv.canon hhash hlat hnd A.batch hlt
  have hcl := clip_le t n
  have hhead := A.head
  obtain ⟨k, s2, hk1, hk2, hk3, hload, hv2⟩ := load_full A.wf A.toSized s1 (pos t s.view + 1)
    (min (clip t n - pos t s.view) t.batch) (hsc.mono hs1.script) (by have := A.batch; omega) (by omega)
    (by omega) (by omega) (by omega) (fun m k h1 h2 h3 => by rw [hg1]; exact hgets m k (by omega) h2 h3)
  rw [Nat.add_sub_cancel] at hload
  obtain ⟨last, hl1, _, hcs⟩ := commit_ok A.wf hinv hk (hv2.trans hs1.view) hk1 (by omega)
  exact ⟨k, last, hk1, by omega, hl1, fun _ => (hplan _).trans ((congrArg _ hload).trans hcs)⟩

end Shovel.World
