import Shovel.Proofs.WorldParts
import Shovel.Proofs.WorldData
import Shovel.Proofs.WorldIter
/-
  A step against a source that answers honestly about one chain (`ScriptOK`): what `load` returns,
  what a successful step adds, and the growth invariant `Inv`: a step from a state satisfying it
  never unwinds and commits, if anything, the next slice of the chain (`step_shape`), which
  re-establishes `Inv` (`Inv_committed`).
-/
namespace Shovel.World

/-- batch size and concurrency as the partition arithmetic of `load` needs them -/
structure Sized (t : Task) : Prop where
  batch : 1 ≤ t.batch
  conc : 1 ≤ t.conc
  /-- with this every partition offset `i * part` stays below `2 ^ 63`, so `start + i * part` does not
      wrap in `uint64` as long as `start` is below `2 ^ 63` too -/
  cb : t.conc * t.batch < 2 ^ 63

/-- the standing assumptions of the growth theorems -/
structure Std (t : Task) (c : Chain) : Prop extends Sized t where
  wf : c.WF
  /-- head-mode start (`start = 0`: begin at the source's head) is outside every growth theorem -/
  start : 0 < t.start
  /-- used as `head + 1 < 2 ^ 63`: the ranges a step under `Inv` loads end at or below the head, and
      `parts_eq` asks for `start + limit < 2 ^ 63`; the registered statements say `2 ^ 62` -/
  head : c.head < 2 ^ 62

theorem go_chain {c : Chain} {ps : List (Nat × Nat)} {st : Nat} {s : St} {acc : List Blk} {e se : Bool}
    {bs : List Blk} {s' : St} (hsc : ScriptOK c s.script) (hcs : Consec st ps)
    (h : load.go ps s acc e se = (bs, false, false, s')) :
    bs = acc ++ c.slice st (psum ps) ∧ (ps ≠ [] → st + psum ps - 1 ≤ c.head) := by
  fun_induction load.go ps s acc e se generalizing st with
  | case1 => cases h; simp [slice_zero]
  | case2 _ _ rest _ acc e _ s1 =>
    have := (go_flags rest s1 acc e true).2 rfl
    rw [h] at this; cases this
  | case3 _ _ rest _ acc _ se s1 =>
    have := (go_flags rest s1 acc true se).1 rfl
    rw [h] at this; cases this
  | case4 m n rest s _ _ _ b _ htg ih =>
    obtain ⟨rfl, hn, hcs⟩ := hcs
    obtain ⟨hs1, hm⟩ := htg ▸ takeGet_spec s m n
    obtain ⟨hbs, hhd⟩ := ih (hsc.mono hs1.script) hcs h
    rcases hsc.gets _ (hm _ rfl) with hg | ⟨_, hg2, hg3⟩
    · cases hg
    · obtain rfl : b = c.slice m n := Option.some.inj hg3
      refine ⟨by rw [hbs, psum_cons, slice_append, List.append_assoc], fun _ => ?_⟩
      rw [psum_cons]
      cases rest with
      | nil => simp only [psum_nil]; exact hg2
      | cons p r => have := hhd (by simp); simp only at hg2 ⊢; omega

/-- no bound on `st`: also when the ranges wrap (`parts_upper`) -/
theorem load_upper {c : Chain} (hc : c.WF) {t : Task} (hz : Sized t) {s s' : St} {lh : String} {st lim : Nat}
    {bs : List Blk} (hsc : ScriptOK c s.script) (hlb : lim ≤ t.batch)
    (h : load t s lh st lim = (.blocks bs, s')) :
    ∀ b ∈ bs, b.num < st + lim := by
  rw [load_eq] at h
  intro b hbm
  rw [← (loadRes_blocks (congrArg Prod.fst h)).1, mem_sortBlks] at hbm
  rcases go_members (parts t.batch t.conc st lim) s [] false false b hbm with h | ⟨p, hp, bl, hg, hb⟩
  · cases h
  · rcases hsc.gets _ hg with hn | ⟨_, _, hg3⟩
    · cases hn
    · obtain rfl : bl = c.slice p.1 p.2 := Option.some.inj hg3
      have := parts_upper t.batch t.conc st lim hz.batch hz.conc hlb hz.cb p hp
      have := (mem_slice_num hc hb).2.1
      omega

theorem loadRes_slice {c : Chain} (hc : c.WF) (lh : String) {st k : Nat} (hk : 1 ≤ k) (hst : 1 ≤ st)
    (hhd : st + k - 1 ≤ c.head) :
    loadRes lh (c.slice st k) false false = if lh = c.hashAt (st - 1) then .blocks (c.slice st k) else .reorg := by
  obtain ⟨b0, rest, hsl, hb0⟩ := slice_first hc st k hk (by omega)
  obtain ⟨bp, hbp⟩ := get_of_le_head hc (show st - 1 ≤ c.head by omega)
  have hlink : b0.parent = c.hashAt (st - 1) := by
    rw [hashAt_of hbp]
    exact hc.link _ _ _ hbp (by rw [Nat.sub_add_cancel hst]; exact hb0)
  have hlen : (c.hashAt (st - 1)).length = 64 := hlink ▸ (hc.len _ _ hb0).2
  have hlk := linked_slice hc st k
  unfold loadRes
  rw [sortBlks_slice hc]
  rw [hsl] at hlk ⊢
  simp only [Bool.false_eq_true, ↓reduceIte, hlk, Bool.not_true, hlink, hlen, beq_self_eq_true, Bool.true_and]
  by_cases h : lh = c.hashAt (st - 1)
  · simp [h]
  · simp [h, Ne.symm h]

/-- the first two alternatives expose the failure flags of `load.go`, for callers that know the
    answers and refute them (`go_noerr`, `go_full`) -/
theorem load_chain {c : Chain} (hc : c.WF) {t : Task} (hz : Sized t) {s s' : St} {lh : String} {st lim : Nat}
    {lr : LoadRes} (hsc : ScriptOK c s.script) (hl : 1 ≤ lim) (hs : st + lim < 2 ^ 63)
    (hst : 1 ≤ st) (h : load t s lh st lim = (lr, s')) :
    (lr = .scriptEnd ∧ (load.go (parts t.batch t.conc st lim) s [] false false).2.2.1 = true) ∨
    (lr = .err ∧ (load.go (parts t.batch t.conc st lim) s [] false false).2.1 = true) ∨
    ∃ k, 1 ≤ k ∧ k ≤ lim ∧ st + k - 1 ≤ c.head ∧
      ((lr = .reorg ∧ lh ≠ c.hashAt (st - 1)) ∨ (lr = .blocks (c.slice st k) ∧ lh = c.hashAt (st - 1))) := by
  rw [load_eq] at h
  cases hg : load.go (parts t.batch t.conc st lim) s [] false false with
  | mk bs0 r =>
  obtain ⟨e, se, s1⟩ := r
  rw [hg] at h
  cases h
  cases se
  case true => exact .inl ⟨rfl, rfl⟩
  cases e
  case true => exact .inr (.inl ⟨rfl, rfl⟩)
  right; right
  obtain ⟨hp1, hp2, hp3⟩ := parts_spec t.batch t.conc st lim hz.batch hz.conc hl hs hz.cb
  obtain ⟨hbs, hhd⟩ := go_chain hsc hp3 hg
  have hhd := hhd (fun h0 => by rw [h0] at hp1; simp at hp1)
  rw [List.nil_append] at hbs
  refine ⟨_, hp1, hp2, hhd, ?_⟩
  rw [hbs, loadRes_slice hc lh hp1 hst hhd]
  split
  · exact .inr ⟨rfl, ‹_›⟩
  · exact .inl ⟨rfl, ‹_›⟩

theorem newRows_blk {t : Task} {bs : List Blk} {x : TRow} (h : x ∈ newRowsOf t bs) :
    ∃ b ∈ bs, x.blk = b.num := by
  obtain ⟨b, hb, _, _, rfl⟩ := mem_newRowsOf.mp h
  exact ⟨b, hb, rfl⟩

/-- whatever a step adds satisfies `P` if every block it commits does -/
theorem converge_mem {t : Task} {db : DB} {sc : Script} (f : Option Pos) (P : Nat → Prop)
    (hb : ∀ a : AtCommit t db sc, ∀ b ∈ a.bs, P b.num) :
    (∀ x ∈ (converge t db sc f).db.cur, x ∈ db.cur ∨ P x.num) ∧
    (∀ x ∈ (converge t db sc f).db.rows, x ∈ db.rows ∨ P x.blk) := by
  rcases converge_shape t db sc f with ⟨hv, _⟩ | ⟨a, last, hlast, hr⟩
  · exact ⟨fun x hx => .inl (hv.curm x hx), fun x hx => .inl (hv.rowsm x hx)⟩
  rw [hr]
  refine ⟨fun x hx => ?_, fun x hx => ?_⟩
  · rcases List.mem_append.mp hx with hx | hx
    · exact .inl (a.view.curm x hx)
    · exact .inr (List.mem_singleton.mp hx ▸ hb a last (List.mem_of_getLast? hlast))
  · rcases List.mem_append.mp hx with hx | hx
    · exact .inl (a.view.rowsm x hx)
    · obtain ⟨b, hb1, hb2⟩ := newRows_blk hx
      exact .inr (hb2 ▸ hb a b hb1)

theorem PlanGo.bounds {c : Chain} {t : Task} {s s1 : St} {ln d : Nat} {lh : String} (hsc : ScriptOK c s.script)
    (hg : PlanGo t s ln lh d s1) : 1 ≤ d ∧ d ≤ t.batch ∧ ln + d ≤ c.head ∧ (0 < t.stop → ln + d ≤ t.stop) := by
  obtain ⟨g, gh, target0, hgm, hdf, hlt, hd, hd1⟩ := hg.ex
  have : g ≤ c.head := by
    rcases hsc.latest _ hgm with h | ⟨n, hn, h⟩ <;> cases h
    exact hn
  have := hdf.le
  have := clip_le t target0
  exact ⟨hd1, by omega, by omega, fun hs => by have := clip_stop t target0 hs; omega⟩

theorem AtCommit.scriptOK {c : Chain} {t : Task} {db : DB} {sc : Script} (h : AtCommit t db sc)
    (hsc : ScriptOK c sc) : ScriptOK c h.s.script ∧ ScriptOK c h.s1.script :=
  ⟨hsc.mono h.le, (hsc.mono h.le).mono h.planned.same.script⟩

theorem AtCommit.upper {c : Chain} {t : Task} {db : DB} {sc : Script} (h : AtCommit t db sc)
    (hc : c.WF) (hz : Sized t) (hsc : ScriptOK c sc) : ∀ b ∈ h.bs, b.num ≤ h.ln + h.d := by
  obtain ⟨hsc0, hsc1⟩ := h.scriptOK hsc
  intro b hb
  have := load_upper hc hz hsc1 (h.planned.bounds hsc0).2.1 h.loaded b hb
  omega

theorem Inv_iff (t : Task) (c : Chain) (s : Nat) (db : DB) : Inv t c s db ↔
    (∀ x ∈ db.cur.filter (mineC t), s < x.num ∧ x.num ≤ c.head ∧ x.hash = c.hashAt x.num) ∧
    ((db.cur.filter (mineC t)).map (·.num)).Nodup ∧
    db.rows.filter (mine t) =
      (c.slice (s + 1) ((topOf (db.cur.filter (mineC t))).getD s - s)).flatMap (rowsFor t) := Iff.rfl

theorem Inv.canon {t : Task} {c : Chain} {db : DB} (h : Inv t c (t.start - 1) db) :
    ∀ x ∈ db.cur.filter (mineC t), t.start - 1 < x.num ∧ x.num ≤ c.head ∧ x.hash = c.hashAt x.num := h.1

theorem Inv.rows {t : Task} {c : Chain} {db : DB} (h : Inv t c (t.start - 1) db) :
    db.rows.filter (mine t) = (c.slice (t.start - 1 + 1) (pos t db - (t.start - 1))).flatMap (rowsFor t) := h.2.2

theorem Inv.pos_ge {t : Task} {c : Chain} {db : DB} (h : Inv t c (t.start - 1) db) :
    t.start - 1 ≤ pos t db ∧ ∀ y ∈ db.cur.filter (mineC t), y.num ≤ pos t db := by
  cases hl : db.latestCur t.src t.ig with
  | none => rw [pos_none hl, latestCur_none hl]; exact ⟨Nat.le_refl _, nofun⟩
  | some x =>
    rw [pos_some hl]
    exact ⟨Nat.le_of_lt (h.canon x (latestCur_mem hl).1).1, (latestCur_mem hl).2⟩

theorem Inv.pos_le_head {t : Task} {c : Chain} {db : DB} (h : Inv t c (t.start - 1) db)
    (hsh : t.start - 1 ≤ c.head) : pos t db ≤ c.head := by
  cases hl : db.latestCur t.src t.ig with
  | none => rw [pos_none hl]; exact hsh
  | some x => rw [pos_some hl]; exact (h.canon x (latestCur_mem hl).1).2.1

theorem inv_local {t : Task} {c : Chain} {v : DB} {sc : Script} {ln : Nat} {lh : String}
    (hsc : ScriptOK c sc) (hstart : 0 < t.start)
    (hinv : ∀ x ∈ v.cur.filter (mineC t), t.start - 1 < x.num ∧ x.num ≤ c.head ∧ x.hash = c.hashAt x.num)
    (h : LocalFacts t v sc ln lh) :
    ln = pos t v ∧ lh = c.hashAt ln ∧ ln ≤ c.head := by
  rcases h with ⟨x, hx, hn, hh⟩ | ⟨hx, _, hn, hh⟩ | ⟨_, hs, _⟩
  · obtain ⟨_, h4, h5⟩ := hinv x (latestCur_mem hx).1
    rw [pos_some hx, hn, hh]; exact ⟨rfl, h5, h4⟩
  · rcases hsc.hash _ hh with h | ⟨h2, h3⟩
    · cases h
    · rw [pos_none hx, hn, Option.some.inj h3]; exact ⟨rfl, rfl, h2⟩
  · omega

theorem committed_mine_cur (t : Task) (v : DB) (bs : List Blk) (last : Blk) :
    (committed t v bs last).cur.filter (mineC t) = v.cur.filter (mineC t) ++ [newCur t last] := by
  show List.filter _ (v.cur ++ [newCur t last]) = _
  rw [List.filter_append]
  congr 1
  simp [mineC_newCur]

theorem pos_committed {t : Task} {v : DB} {bs : List Blk} {last : Blk} (h : pos t v < last.num) :
    pos t (committed t v bs last) = last.num := by
  unfold pos at *
  rw [committed_mine_cur, topOf_snoc]
  cases htp : topOf (v.cur.filter (mineC t)) with
  | none => rfl
  | some n =>
    rw [htp] at h
    show max n last.num = last.num
    exact Nat.max_eq_right (Nat.le_of_lt h)

theorem Inv_committed {t : Task} {c : Chain} {v : DB} {k : Nat} {last : Blk}
    (hinv : Inv t c (t.start - 1) v) (hk : 1 ≤ k) (hhd : pos t v + k ≤ c.head)
    (hnum : last.num = pos t v + k) (hhash : last.hash = c.hashAt last.num) :
    Inv t c (t.start - 1) (committed t v (c.slice (pos t v + 1) k) last) := by
  obtain ⟨htop1, htop2⟩ := hinv.pos_ge
  have hrs : (committed t v (c.slice (pos t v + 1) k) last).rows.filter (mine t) =
      v.rows.filter (mine t) ++ newRowsOf t (c.slice (pos t v + 1) k) := by
    show List.filter _ (v.rows ++ newRowsOf t _) = _
    rw [List.filter_append, List.filter_eq_self.mpr (mine_newRows t _)]
  have hpos : pos t (committed t v (c.slice (pos t v + 1) k) last) = pos t v + k := by
    rw [pos_committed (by omega), hnum]
  rw [Inv_iff, hrs]
  refine ⟨?_, ?_, ?_⟩
  · rw [committed_mine_cur]
    intro x hx
    rcases List.mem_append.mp hx with hx | hx
    · exact hinv.canon x hx
    · cases List.mem_singleton.mp hx
      exact ⟨by show _ < last.num; omega, by show last.num ≤ _; omega, hhash⟩
  · rw [committed_mine_cur, List.map_append, List.nodup_append]
    refine ⟨hinv.2.1, by simp, fun a ha b hb => ?_⟩
    obtain ⟨y, hy, rfl⟩ := List.mem_map.mp ha
    cases List.mem_singleton.mp hb
    have := htop2 y hy
    show y.num ≠ last.num
    omega
  · show _ = (c.slice _ (pos t (committed t v (c.slice (pos t v + 1) k) last) - _)).flatMap _
    rw [hpos, hinv.rows, newRowsOf, ← List.flatMap_append, Nat.sub_add_comm htop1, slice_append,
      Nat.add_right_comm, Nat.add_sub_cancel' htop1]

theorem step_shape {t : Task} {c : Chain} {db : DB} {sc : Script} (A : Std t c) (hsc : ScriptOK c sc)
    (hinv : Inv t c (t.start - 1) db) (f : Option Pos) :
    ((converge t db sc f).db = db ∧ (∀ m, (converge t db sc f).mid = some m → m = db) ∧
      ∀ n, (converge t db sc f).outcome ≠ .ok n) ∨
    ∃ k last, 1 ≤ k ∧ k ≤ t.batch ∧ pos t db + k ≤ c.head ∧ (0 < t.stop → pos t db + k ≤ t.stop) ∧
      last.num = pos t db + k ∧ last.hash = c.hashAt (pos t db + k) ∧
      converge t db sc f =
        { outcome := .ok last.num, db := committed t db (c.slice (pos t db + 1) k) last, mid := some db } := by
  rw [converge_eq]
  split
  · exact .inl ⟨rfl, nofun, nofun⟩
  rw [loop_succ]
  rcases iterK_cases t f { db := db, view := db, script := sc }
    with ⟨r, he, hr⟩ | ⟨ln, lh, d, s1, lr, s2, hg, hl, hss, hi⟩
  · rw [hr]
    exact .inl ⟨he.db, fun m hm => (by rw [he.mid] at hm; cases hm), he.not_ok⟩
  rw [hi f (.inl rfl)]
  -- the first iteration finds the chain's hash at the position: it does not unwind
  obtain ⟨rfl, hlh, hle⟩ := inv_local hsc A.start hinv.canon hg.loc
  obtain ⟨hd1, hd2, hd3, hd4⟩ := hg.bounds hsc
  rcases load_chain A.wf A.toSized (hsc.mono hg.same.script) hd1 (by have := A.head; omega) (by omega) hl
    with ⟨rfl, _⟩ | ⟨rfl, _⟩ | ⟨k, hk1, hk2, hk3, ⟨_, hne⟩ | ⟨rfl, _⟩⟩
  · exact .inl ⟨hss.db, nofun, nofun⟩
  · exact .inl ⟨hss.db, nofun, nofun⟩
  · exact absurd hlh hne
  simp only [afterLoad]
  obtain ⟨last, hl1, hl2, hl3⟩ := slice_last A.wf (pos t db) k hk1 (by omega)
  rcases commitStep_cases t f s2 (c.slice (pos t db + 1) k) with ⟨_, h⟩ | ⟨o, ho, h⟩ | ⟨last', hlast, _, _, h⟩ <;>
    rw [h]
  · exact .inl ⟨hss.db, nofun, nofun⟩
  · exact .inl ⟨hss.view, fun m hm => by cases hm; exact hss.view, by rcases ho with rfl | rfl <;> nofun⟩
  · rw [hl1] at hlast
    cases hlast
    exact .inr ⟨k, last, hk1, by omega, by omega, fun hs => by have := hd4 hs; omega, hl2, hl3, hss.view ▸ rfl⟩

end Shovel.World
