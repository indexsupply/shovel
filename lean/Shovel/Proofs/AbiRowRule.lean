import Shovel.Spec.Abi
/-
  C09: the row rule (`leaves`, `arrRows` of Spec/Abi) by itself — when it yields nothing, and which
  columns its cells name.  Nothing here mentions the decoder.
-/
namespace Shovel.Abi

mutual
/-- `Ty.selList` of Props/C09 is this function (`Ty.selList_eq_sels`) -/
def Ty.sels : Ty → List Nat
  | .stat s => s.toList
  | .dyn s => s.toList
  | .arr _ e => e.sels
  | .tup fs => fs.sels
def Tys.sels : Tys → List Nat
  | .nil => []
  | .cons t ts => t.sels ++ ts.sels
end

theorem leaves_noselect_both :
    (∀ t v, t.hasSelect = false → leaves t v = []) ∧
    (∀ fs vs, fs.hasSelect = false → leavesTup fs vs = []) := by
  apply leaves.mutual_induct (motive_1 := fun t v => t.hasSelect = false → leaves t v = [])
    (motive_2 := fun fs vs => fs.hasSelect = false → leavesTup fs vs = [])
  · intro p w h; cases h
  · intro p bs h; cases h
  · intro fs vs ih h; rw [leaves]; exact ih h
  · intro t v h1 h2 h3 _; exact leaves.eq_4 t v h1 h2 h3
  · intro f fs v vs ih1 ih2 h
    rw [Tys.hasSelect, Bool.or_eq_false_iff] at h
    rw [leavesTup, ih1 h.1, ih2 h.2]; rfl
  · intro fs vs h _; exact leavesTup.eq_2 fs vs h

theorem leaves_noselect : (t : Ty) → (v : Val) → t.hasSelect = false → leaves t v = [] :=
  leaves_noselect_both.1

theorem leavesTup_noselect : (fs : Tys) → (vs : Vals) → fs.hasSelect = false → leavesTup fs vs = [] :=
  leaves_noselect_both.2

theorem leaves_isArr {e : Ty} (h : e.isArr = true) (v : Val) : leaves e v = [] := by
  cases e <;> simp [Ty.isArr] at h
  cases v <;> rfl

theorem arrRows_stat (sel : Option Nat) (v : Val) : arrRows (.stat sel) v = [] := by cases v <;> rfl
theorem arrRows_dyn (sel : Option Nat) (v : Val) : arrRows (.dyn sel) v = [] := by cases v <;> rfl

mutual
theorem arrRows_noselect : (t : Ty) → (v : Val) → t.hasSelect = false → arrRows t v = []
  | .stat sel, v, _ => arrRows_stat sel v
  | .dyn sel, v, _ => arrRows_dyn sel v
  | .arr k e, v, h => by
    cases v with
    | arr vs => rw [arrRows, if_neg (by rw [Ty.hasSelect] at h; simp [h])]
    | _ => rfl
  | .tup fs, v, h => by
    cases v with
    | tup vs => rw [arrRows]; exact arrRowsTup_noselect fs vs h
    | _ => rfl
theorem arrRowsTup_noselect : (fs : Tys) → (vs : Vals) → fs.hasSelect = false → arrRowsTup fs vs = []
  | .nil, vs, _ => by cases vs <;> rfl
  | .cons f fr, vs, h => by
    cases vs with
    | nil => rfl
    | cons v vr =>
      rw [Tys.hasSelect, Bool.or_eq_false_iff] at h
      rw [arrRowsTup, arrRows_noselect f v h.1, arrRowsTup_noselect fr vr h.2]; rfl
end

theorem leaves_keys_both :
    (∀ t v, ((leaves t v).map (·.1)).Sublist t.sels) ∧
    (∀ fs vs, ((leavesTup fs vs).map (·.1)).Sublist fs.sels) := by
  apply leaves.mutual_induct (motive_1 := fun t v => ((leaves t v).map (·.1)).Sublist t.sels)
    (motive_2 := fun fs vs => ((leavesTup fs vs).map (·.1)).Sublist fs.sels)
  · intro p w; exact List.Sublist.refl _
  · intro p bs; exact List.Sublist.refl _
  · intro fs vs ih; rw [leaves, Ty.sels]; exact ih
  · intro t v h1 h2 h3; rw [leaves.eq_4 t v h1 h2 h3]; exact List.nil_sublist _
  · intro f fs v vs ih1 ih2
    rw [leavesTup, List.map_append, Tys.sels]
    exact ih1.append ih2
  · intro fs vs h; rw [leavesTup.eq_2 fs vs h]; exact List.nil_sublist _

theorem leaves_keys : (t : Ty) → (v : Val) → ((leaves t v).map (·.1)).Sublist t.sels :=
  leaves_keys_both.1

theorem leavesTup_keys : (fs : Tys) → (vs : Vals) → ((leavesTup fs vs).map (·.1)).Sublist fs.sels :=
  leaves_keys_both.2

theorem arrRows_keys_all :
    (∀ t v, ∀ r ∈ arrRows t v, (r.map (·.1)).Sublist t.sels) ∧
    (∀ fs vs, ∀ r ∈ arrRowsTup fs vs, (r.map (·.1)).Sublist fs.sels) ∧
    (∀ e vs, ∀ r ∈ arrRowsElems e vs, (r.map (·.1)).Sublist e.sels) := by
  apply arrRows.mutual_induct
    (motive_1 := fun t v => ∀ r ∈ arrRows t v, (r.map (·.1)).Sublist t.sels)
    (motive_2 := fun fs vs => ∀ r ∈ arrRowsTup fs vs, (r.map (·.1)).Sublist fs.sels)
    (motive_3 := fun e vs => ∀ r ∈ arrRowsElems e vs, (r.map (·.1)).Sublist e.sels)
  · intro k e vs hsel ih r hr
    rw [arrRows, if_pos hsel] at hr
    exact ih r hr
  · intro k e vs hsel r hr
    rw [arrRows, if_neg hsel] at hr
    cases hr
  · intro fs vs ih r hr
    rw [arrRows] at hr
    exact ih r hr
  · intro v t h1 h2 r hr
    rw [arrRows.eq_3 t v h1 h2] at hr
    cases hr
  · intro f fs v vs ih1 ih2 r hr
    rw [arrRowsTup, List.mem_append] at hr
    rw [Tys.sels]
    exact hr.elim (fun h => (ih1 r h).trans (List.sublist_append_left _ _))
      fun h => (ih2 r h).trans (List.sublist_append_right _ _)
  · intro vs fs h r hr
    rw [arrRowsTup.eq_2 fs vs h] at hr
    cases hr
  · intro e r hr
    rw [arrRowsElems] at hr
    cases hr
  · intro e v vs ih1 ih2 r hr
    rw [arrRowsElems, List.mem_append] at hr
    rcases hr with hr | hr
    · split at hr
      · exact ih1 r hr
      · cases List.mem_singleton.mp hr
        exact leaves_keys e v
    · exact ih2 r hr

theorem arrRows_keys : (t : Ty) → (v : Val) → ∀ r ∈ arrRows t v, (r.map (·.1)).Sublist t.sels :=
  arrRows_keys_all.1

theorem arrRowsTup_keys : (fs : Tys) → (vs : Vals) → ∀ r ∈ arrRowsTup fs vs, (r.map (·.1)).Sublist fs.sels :=
  arrRows_keys_all.2.1

end Shovel.Abi
