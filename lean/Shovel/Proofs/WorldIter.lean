import Shovel.Model.World
import Shovel.Spec.World
/-
  One iteration of `converge.loop`, restated in continuation-passing form: `planK` (latest / stop /
  source head / dependencies / delta) hands on to `load` and `afterLoad` (either `delK` = Task.Delete
  and the next iteration, or `commitStep` = commit 1, insert, update, commit 2).  The restatement is
  definitionally the model's (`loop_succ` is `rfl`).  The characterisations of the phases say what a
  phase returns whatever its continuation is.
-/
namespace Shovel.World

theorem hit_none (p : Pos) : hit none p = false := rfl

/-- every answer of `a` is one of `b`: `a` is what is left of `b` after some calls -/
def Script.le (a b : Script) : Prop :=
  (∀ x ∈ a.latest, x ∈ b.latest) ∧ (∀ x ∈ a.hash, x ∈ b.hash) ∧ (∀ x ∈ a.gets, x ∈ b.gets)

theorem Script.le_refl (a : Script) : a.le a := ⟨fun _ h => h, fun _ h => h, fun _ h => h⟩
theorem Script.le_trans {a b c : Script} (h1 : a.le b) (h2 : b.le c) : a.le c :=
  ⟨fun x h => h2.1 x (h1.1 x h), fun x h => h2.2.1 x (h1.2.1 x h), fun x h => h2.2.2 x (h1.2.2 x h)⟩

/-- `s'` is `s` after some source calls -/
structure Same (s s' : St) : Prop where
  db : s'.db = s.db
  view : s'.view = s.view
  script : s'.script.le s.script

theorem Same.refl (s : St) : Same s s := ⟨rfl, rfl, Script.le_refl _⟩
theorem Same.trans {a b c : St} (h1 : Same a b) (h2 : Same b c) : Same a c :=
  ⟨h2.db.trans h1.db, h2.view.trans h1.view, Script.le_trans h2.script h1.script⟩

theorem ScriptOK.mono {c : Chain} {a b : Script} (h : ScriptOK c b) (hle : a.le b) : ScriptOK c a :=
  ⟨fun x hx => h.latest x (hle.1 x hx), fun x hx => h.hash x (hle.2.1 x hx), fun x hx => h.gets x (hle.2.2 x hx)⟩

theorem takeLatest_spec (s : St) :
    Same s (takeLatest s).2 ∧ ∀ a, (takeLatest s).1 = some a → a ∈ s.script.latest := by
  unfold takeLatest
  cases h : s.script.latest with
  | nil => exact ⟨Same.refl _, nofun⟩
  | cons a rest =>
    refine ⟨⟨rfl, rfl, fun x hx => ?_, fun _ hx => hx, fun _ hx => hx⟩, fun b hb => ?_⟩
    · exact h ▸ List.mem_cons_of_mem _ hx
    · cases hb; exact List.mem_cons_self ..

theorem takeHash_spec (s : St) (n : Nat) :
    Same s (takeHash s n).2 ∧ ∀ a, (takeHash s n).1 = some a → (n, a) ∈ s.script.hash := by
  unfold takeHash
  cases h : s.script.hash.find? (fun g => g.1 == n) with
  | none => exact ⟨Same.refl _, nofun⟩
  | some g =>
    have h1 : g.1 = n := by simpa using List.find?_some h
    refine ⟨⟨rfl, rfl, fun _ hx => hx, fun x hx => List.mem_of_mem_erase hx, fun _ hx => hx⟩, fun b hb => ?_⟩
    cases hb; exact h1 ▸ List.mem_of_find?_eq_some h

theorem takeGet_spec (s : St) (m n : Nat) :
    Same s (takeGet s m n).2 ∧ ∀ a, (takeGet s m n).1 = some a → ((m, n), a) ∈ s.script.gets := by
  unfold takeGet
  cases h : s.script.gets.find? (fun g => g.1 == (m, n)) with
  | none => exact ⟨Same.refl _, nofun⟩
  | some g =>
    have h1 : g.1 = (m, n) := by simpa using List.find?_some h
    refine ⟨⟨rfl, rfl, fun _ hx => hx, fun _ hx => hx, fun x hx => List.mem_of_mem_erase hx⟩, fun b hb => ?_⟩
    cases hb; exact h1 ▸ List.mem_of_find?_eq_some h

/-- the `latest()` part of the loop body: the recorded position, else the block before the configured
    start or before the source's head, with its hash from the source -/
def localRes (t : Task) (s : St) : Option (Option (Nat × String)) × St :=
  match s.view.latestCur t.src t.ig with
  | some c => (some (some (c.num, c.hash)), s)
  | none =>
    if t.start > 0 then
      match takeHash s (t.start - 1) with
      | (none, s') => (none, s')
      | (some none, s') => (some none, s')
      | (some (some h), s') => (some (some (t.start - 1, h)), s')
    else
      match takeLatest s with
      | (none, s') => (none, s')
      | (some none, s') => (some none, s')
      | (some (some (n, _)), s') =>
        match takeHash s' ((n + U64 - 1) % U64) with
        | (none, s'') => (none, s'')
        | (some none, s'') => (some none, s'')
        | (some (some h), s'') => (some (some ((n + U64 - 1) % U64, h)), s'')

/-- where the local position of an iteration comes from -/
inductive LocalFacts (t : Task) (v : DB) (sc : Script) (ln : Nat) (lh : String) : Prop where
  | cur (c : Cur) (h : v.latestCur t.src t.ig = some c) (hn : ln = c.num) (hh : lh = c.hash)
  | start (h : v.latestCur t.src t.ig = none) (hs : 0 < t.start) (hn : ln = t.start - 1)
      (hh : (t.start - 1, some lh) ∈ sc.hash)
  | head (h : v.latestCur t.src t.ig = none) (hs : t.start = 0) (n : Nat) (h0 : String)
      (hl : some (n, h0) ∈ sc.latest) (hn : ln = (n + U64 - 1) % U64) (hh : (ln, some lh) ∈ sc.hash)

theorem localRes_spec (t : Task) (s : St) : Same s (localRes t s).2 ∧
    match (localRes t s).1 with
    | none => True
    | some none => none ∈ s.script.latest ∨ ∃ n, (n, none) ∈ s.script.hash
    | some (some (ln, lh)) => LocalFacts t s.view s.script ln lh := by
  unfold localRes
  split
  · next c hc => exact ⟨Same.refl _, .cur c hc rfl rfl⟩
  next hc =>
  split
  · next hs =>
    cases hth : takeHash s (t.start - 1) with
    | mk a s1 =>
    obtain ⟨h1, h2⟩ := hth ▸ takeHash_spec s (t.start - 1)
    rcases a with _ | _ | h
    · exact ⟨h1, trivial⟩
    · exact ⟨h1, .inr ⟨_, h2 _ rfl⟩⟩
    · exact ⟨h1, .start hc hs rfl (h2 _ rfl)⟩
  · next hs =>
    cases htl : takeLatest s with
    | mk a s1 =>
    obtain ⟨h1, h2⟩ := htl ▸ takeLatest_spec s
    rcases a with _ | _ | ⟨n, h0⟩
    · exact ⟨h1, trivial⟩
    · exact ⟨h1, .inl (h2 _ rfl)⟩
    · simp only []
      cases hth : takeHash s1 ((n + U64 - 1) % U64) with
      | mk b s2 =>
      obtain ⟨h3, h4⟩ := hth ▸ takeHash_spec s1 ((n + U64 - 1) % U64)
      have hm := fun x hx => h1.script.2.1 _ (h4 x hx)
      rcases b with _ | _ | h
      · exact ⟨h1.trans h3, trivial⟩
      · exact ⟨h1.trans h3, .inr ⟨_, hm _ rfl⟩⟩
      · exact ⟨h1.trans h3, .head hc (by omega) n h0 (h2 _ rfl) rfl (hm _ rfl)⟩

theorem localRes_none (t : Task) (s s' : St) (h : localRes t s = (some none, s')) :
    none ∈ s.script.latest ∨ ∃ n, (n, none) ∈ s.script.hash := by
  have := (localRes_spec t s).2
  rw [h] at this
  exact this

theorem localRes_cur {t : Task} {s : St} {x : Cur} (hx : s.view.latestCur t.src t.ig = some x) :
    localRes t s = (some (some (x.num, x.hash)), s) := by
  unfold localRes; simp only [hx]

/-- the dependency query of the loop body -/
def depStep (t : Task) (fault : Option Pos) (gethNum : Nat) (s : St) : Option (Option Nat) × St :=
  let kd := s.nDeps
  if t.deps.isEmpty then (some (some gethNum), s)
  else
    let s := { s with nDeps := kd + 1 }
    if hit fault (.qdeps kd) then (none, s)
    else match s.view.depTarget t.src t.deps with
      | none => (some none, s)
      | some (dn, _) => if dn == 0 then (some none, s) else (some (some (if dn < gethNum then dn else gethNum)), s)

/-- what the dependency gate established -/
def DepFacts (t : Task) (v : DB) (g target0 : Nat) : Prop :=
  (t.deps = [] ∧ target0 = g) ∨
  (t.deps ≠ [] ∧ ∃ dn dh, v.depTarget t.src t.deps = some (dn, dh) ∧ dn ≠ 0 ∧ target0 ≤ dn ∧ target0 ≤ g)

theorem DepFacts.le {t : Task} {v : DB} {g target0 : Nat} (h : DepFacts t v g target0) : target0 ≤ g := by
  rcases h with ⟨_, h⟩ | ⟨_, _, _, _, _, _, h⟩
  · omega
  · exact h

theorem depStep_spec (t : Task) (f : Option Pos) (g : Nat) (s : St) : Same s (depStep t f g s).2 ∧
    ∀ tg, (depStep t f g s).1 = some (some tg) → DepFacts t s.view g tg := by
  have hs : Same s { s with nDeps := s.nDeps + 1 } := ⟨rfl, rfl, Script.le_refl _⟩
  unfold depStep
  dsimp only
  by_cases he : t.deps.isEmpty = true
  · rw [if_pos he]
    exact ⟨Same.refl _, fun tg h => by cases h; exact .inl ⟨List.isEmpty_iff.mp he, rfl⟩⟩
  rw [if_neg he]
  by_cases hq : hit f (.qdeps s.nDeps) = true
  · rw [if_pos hq]; exact ⟨hs, nofun⟩
  rw [if_neg hq]
  cases hdt : s.view.depTarget t.src t.deps with
  | none => exact ⟨hs, nofun⟩
  | some x =>
    obtain ⟨dn, dh⟩ := x
    dsimp only
    by_cases hz : (dn == 0) = true
    · rw [if_pos hz]; exact ⟨hs, nofun⟩
    rw [if_neg hz]
    refine ⟨hs, fun tg h => ?_⟩
    cases h
    exact .inr ⟨fun hd => he (by rw [hd]; rfl), dn, dh, hdt, by simpa using hz, by split <;> omega, by split <;> omega⟩

theorem depStep_nodeps {t : Task} (hdeps : t.deps = []) (f : Option Pos) (g : Nat) (s : St) :
    depStep t f g s = (some (some g), s) := by
  unfold depStep; simp [hdeps]

theorem depStep_none_of {t : Task} {f : Option Pos} {g tg : Nat} {s s' : St}
    (h : depStep t f g s = (some (some tg), s')) : depStep t none g s = (some (some tg), s') := by
  unfold depStep at h ⊢
  dsimp only at h ⊢
  rw [hit_none]
  by_cases he : t.deps.isEmpty = true
  · rw [if_pos he] at h ⊢; exact h
  rw [if_neg he] at h ⊢
  cases hq : hit f (.qdeps s.nDeps)
  · rw [hq] at h; exact h
  · rw [hq, if_pos rfl] at h; cases h

/-- results of a step that stops before anything is committed -/
structure Early (t : Task) (db : DB) (r : Result) : Prop where
  db : r.db = db
  mid : r.mid = none
  quiet : match r.outcome with
    | .ok _ => False
    | .done => 0 < t.stop
    | _ => True

theorem Early.not_ok {t : Task} {db : DB} {r : Result} (h : Early t db r) (n : Nat) : r.outcome ≠ .ok n := by
  intro ho; have := h.quiet; rw [ho] at this; exact this

theorem Early.done {t : Task} {db : DB} {r : Result} (h : Early t db r) (hd : r.outcome = .done) : 0 < t.stop := by
  have := h.quiet; rw [hd] at this; exact this

/-- `Converge` clips the target at the configured stop before it cuts the batch -/
def clip (t : Task) (target0 : Nat) : Nat := if t.stop > 0 ∧ target0 > t.stop then t.stop else target0

theorem clip_le (t : Task) (x : Nat) : clip t x ≤ x := by
  unfold clip; split <;> omega

theorem clip_stop (t : Task) (x : Nat) (h : 0 < t.stop) : clip t x ≤ t.stop := by
  unfold clip; split <;> omega

/-- the loop body up to the call of `load`; `K ln lh d s` is what follows, given the local position,
    its hash and the number of blocks to fetch -/
def planK (t : Task) (fault : Option Pos) (K : Nat → String → Nat → St → Result) (s : St) : Result :=
  let k := s.nLatest
  let s := { s with nLatest := k + 1 }
  if hit fault (.qlatest k) then { outcome := .err, db := s.db }
  else
    match localRes t s with
    | (none, s) => { outcome := .err, db := s.db, scriptOk := false }
    | (some none, s) => { outcome := .err, db := s.db }
    | (some (some (localNum, localHash)), s) =>
      if t.stop > 0 ∧ localNum ≥ t.stop then { outcome := .done, db := s.db }
      else
        match takeLatest s with
        | (none, s) => { outcome := .err, db := s.db, scriptOk := false }
        | (some none, s) => { outcome := .err, db := s.db }
        | (some (some (gethNum, _)), s) =>
          match depStep t fault gethNum s with
          | (none, s) => { outcome := .err, db := s.db }
          | (some none, s) => { outcome := .nothingNew, db := s.db }
          | (some (some target0), s) =>
            let target := clip t target0
            if localNum > target then { outcome := .ahead, db := s.db }
            else if localNum == target then { outcome := .nothingNew, db := s.db }
            else
              let delta := min (target - localNum) t.batch
              if delta == 0 then { outcome := .nothingNew, db := s.db }
              else K localNum localHash delta s

/-- what planning established when it goes on to `load` -/
structure PlanGo (t : Task) (s : St) (ln : Nat) (lh : String) (d : Nat) (s' : St) : Prop where
  same : Same s s'
  loc : LocalFacts t s.view s.script ln lh
  ex : ∃ g gh target0, some (g, gh) ∈ s.script.latest ∧ DepFacts t s.view g target0 ∧
    ln < clip t target0 ∧ d = min (clip t target0 - ln) t.batch ∧ 1 ≤ d

theorem planK_go_of {t : Task} {f : Option Pos} {s s1 s2 s3 : St} {ln g tg : Nat} {lh gh : String}
    (hf : hit f (.qlatest s.nLatest) = false)
    (hl : localRes t { s with nLatest := s.nLatest + 1 } = (some (some (ln, lh)), s1))
    (hnd : ¬ (t.stop > 0 ∧ ln ≥ t.stop)) (htl : takeLatest s1 = (some (some (g, gh)), s2))
    (hds : depStep t f g s2 = (some (some tg), s3)) (hlt : ln < clip t tg)
    (hd : min (clip t tg - ln) t.batch ≠ 0) :
    PlanGo t s ln lh (min (clip t tg - ln) t.batch) s3 ∧
      ∀ K, planK t f K s = K ln lh (min (clip t tg - ln) t.batch) s3 := by
  obtain ⟨a1, a2⟩ := hl ▸ localRes_spec t { s with nLatest := s.nLatest + 1 }
  obtain ⟨b1, b2⟩ := htl ▸ takeLatest_spec s1
  obtain ⟨c1, c2⟩ := hds ▸ depStep_spec t f g s2
  replace a1 : Same s s1 := ⟨a1.db, a1.view, a1.script⟩
  refine ⟨⟨a1.trans (b1.trans c1), a2, g, gh, tg, a1.script.1 _ (b2 _ rfl), (a1.trans b1).view ▸ c2 tg rfl,
    hlt, rfl, by omega⟩, fun K => ?_⟩
  have h1 : ¬ clip t tg < ln := by omega
  have h2 : (ln == clip t tg) = false := by rw [beq_eq_false_iff_ne]; omega
  have h3 : (min (clip t tg - ln) t.batch == 0) = false := by rw [beq_eq_false_iff_ne]; exact hd
  unfold planK
  simp only [hf, hl, hnd, htl, hds, gt_iff_lt, h1, h2, h3, Bool.false_eq_true, ↓reduceIte]

/-- a fault stops planning, it does not steer it -/
theorem planK_spec (t : Task) (f : Option Pos) (s : St) :
    (∃ r, Early t s.db r ∧ ∀ K, planK t f K s = r) ∨
    ∃ ln lh d s1, PlanGo t s ln lh d s1 ∧ ∀ f', f' = f ∨ f' = none → ∀ K, planK t f' K s = K ln lh d s1 := by
  -- only the left alternative is walked (the right one is `planK_go_of`); `K` is bound there, so
  -- where one would `rw [if_neg _]` it takes `simp only`
  conv => lhs; unfold planK; dsimp only
  by_cases h0 : hit f (.qlatest s.nLatest) = true
  · exact .inl ⟨_, ⟨rfl, rfl, trivial⟩, fun _ => if_pos h0⟩
  simp only [if_neg h0]
  cases hlr : localRes t { s with nLatest := s.nLatest + 1 } with
  | mk a s1 =>
  have hs1 := (hlr ▸ localRes_spec t { s with nLatest := s.nLatest + 1 }).1
  rcases a with _ | _ | ⟨ln, lh⟩
  · exact .inl ⟨_, ⟨hs1.db, rfl, trivial⟩, fun _ => rfl⟩
  · exact .inl ⟨_, ⟨hs1.db, rfl, trivial⟩, fun _ => rfl⟩
  dsimp only
  by_cases hnd : t.stop > 0 ∧ ln ≥ t.stop
  · exact .inl ⟨_, ⟨hs1.db, rfl, hnd.1⟩, fun _ => if_pos hnd⟩
  simp only [if_neg hnd]
  cases htl : takeLatest s1 with
  | mk a s2 =>
  have hs2 := (htl ▸ takeLatest_spec s1).1.db.trans hs1.db
  rcases a with _ | _ | ⟨g, gh⟩
  · exact .inl ⟨_, ⟨hs2, rfl, trivial⟩, fun _ => rfl⟩
  · exact .inl ⟨_, ⟨hs2, rfl, trivial⟩, fun _ => rfl⟩
  dsimp only
  cases hds : depStep t f g s2 with
  | mk a s3 =>
  have hs3 := (hds ▸ depStep_spec t f g s2).1.db.trans hs2
  rcases a with _ | _ | tg
  · exact .inl ⟨_, ⟨hs3, rfl, trivial⟩, fun _ => rfl⟩
  · exact .inl ⟨_, ⟨hs3, rfl, trivial⟩, fun _ => rfl⟩
  dsimp only
  by_cases hgt : ln > clip t tg
  · exact .inl ⟨_, ⟨hs3, rfl, trivial⟩, fun _ => if_pos hgt⟩
  simp only [if_neg hgt]
  by_cases hne : (ln == clip t tg) = true
  · exact .inl ⟨_, ⟨hs3, rfl, trivial⟩, fun _ => if_pos hne⟩
  simp only [if_neg hne]
  by_cases hd0 : (min (clip t tg - ln) t.batch == 0) = true
  · exact .inl ⟨_, ⟨hs3, rfl, trivial⟩, fun _ => if_pos hd0⟩
  have hlt : ln < clip t tg := Nat.lt_of_le_of_ne (Nat.le_of_not_lt hgt) fun h => hne (beq_iff_eq.mpr h)
  have hd : min (clip t tg - ln) t.batch ≠ 0 := fun h => hd0 (beq_iff_eq.mpr h)
  have hgo := planK_go_of (Bool.eq_false_iff.mpr h0) hlr hnd htl hds hlt hd
  refine .inr ⟨ln, lh, _, s3, hgo.1, fun f' hf' => ?_⟩
  rcases hf' with rfl | rfl
  · exact hgo.2
  · exact (planK_go_of (hit_none _) hlr hnd htl (depStep_none_of hds) hlt hd).2

theorem planK_done (t : Task) (f : Option Pos) (s : St) (x : Cur)
    (hx : s.view.latestCur t.src t.ig = some x) (hs : 0 < t.stop) (hxs : t.stop ≤ x.num)
    (hf : hit f (.qlatest s.nLatest) = false) (K : Nat → String → Nat → St → Result) :
    planK t f K s = { outcome := .done, db := s.db } := by
  have hc : t.stop > 0 ∧ x.num ≥ t.stop := ⟨hs, hxs⟩
  unfold planK
  simp only [hf, Bool.false_eq_true, ↓reduceIte, localRes_cur (s := { s with nLatest := s.nLatest + 1 }) hx, hc,
    and_self]

/-- `load` after the fetching (`load.go`): what it makes of the blocks and the two failure flags -/
def loadRes (lh : String) (bs : List Blk) (e se : Bool) : LoadRes :=
  if se then .scriptEnd
  else if e then .err
  else
    match sortBlks bs with
    | [] => .panic
    | first :: rest =>
      if !linked (first :: rest) then .err
      else if first.parent.length == 64 && first.parent != lh then .reorg
      else .blocks (first :: rest)

theorem load_eq (t : Task) (s : St) (lh : String) (st lim : Nat) :
    load t s lh st lim =
      (loadRes lh (load.go (parts t.batch t.conc st lim) s [] false false).1
          (load.go (parts t.batch t.conc st lim) s [] false false).2.1
          (load.go (parts t.batch t.conc st lim) s [] false false).2.2.1,
        (load.go (parts t.batch t.conc st lim) s [] false false).2.2.2) := by
  unfold load loadRes
  cases load.go (parts t.batch t.conc st lim) s [] false false with
  | mk bs r =>
  obtain ⟨e, se, s'⟩ := r
  cases se
  · cases e
    · simp only [Bool.false_eq_true, ↓reduceIte]
      cases sortBlks bs with
      | nil => rfl
      | cons first rest =>
        simp only []
        split
        · rfl
        · split <;> rfl
    · rfl
  · rfl

theorem loadRes_blocks {lh : String} {bs bs' : List Blk} {e se : Bool} (h : loadRes lh bs e se = .blocks bs') :
    sortBlks bs = bs' ∧ linked bs' = true := by
  unfold loadRes at h
  cases se
  case true => cases h
  cases e
  case true => cases h
  simp only [Bool.false_eq_true, ↓reduceIte] at h
  cases hsb : sortBlks bs with
  | nil => rw [hsb] at h; cases h
  | cons first rest =>
    rw [hsb] at h
    dsimp only at h
    by_cases hl : (!linked (first :: rest)) = true
    · rw [if_pos hl] at h; cases h
    rw [if_neg hl] at h
    by_cases hp : (first.parent.length == 64 && first.parent != lh) = true
    · rw [if_pos hp] at h; cases h
    rw [if_neg hp] at h
    cases h
    exact ⟨rfl, by simpa using hl⟩

theorem go_same (ps : List (Nat × Nat)) (s : St) (acc : List Blk) (e se : Bool) :
    Same s (load.go ps s acc e se).2.2.2 := by
  fun_induction load.go ps s acc e se with
  | case1 => exact Same.refl _
  | case2 m n _ s _ _ _ _ htg ih => exact (htg ▸ takeGet_spec s m n).1.trans ih
  | case3 m n _ s _ _ _ _ htg ih => exact (htg ▸ takeGet_spec s m n).1.trans ih
  | case4 m n _ s _ _ _ _ _ htg ih => exact (htg ▸ takeGet_spec s m n).1.trans ih

theorem go_members : ∀ (ps : List (Nat × Nat)) (s : St) (acc : List Blk) (e se : Bool),
    ∀ b ∈ (load.go ps s acc e se).1, b ∈ acc ∨ ∃ p ∈ ps, ∃ bs, (p, some bs) ∈ s.script.gets ∧ b ∈ bs
  | [], s, acc, e, se => by unfold load.go; exact fun b hb => .inl hb
  | (m, n) :: rest, s, acc, e, se => by
    unfold load.go
    cases htg : takeGet s m n with
    | mk a s1 =>
    obtain ⟨hs1, hm⟩ := htg ▸ takeGet_spec s m n
    intro b hb
    have later : ∀ {acc' : List Blk}, (b ∈ acc' ∨ ∃ p ∈ rest, ∃ bs, (p, some bs) ∈ s1.script.gets ∧ b ∈ bs) →
        b ∈ acc' ∨ ∃ p ∈ (m, n) :: rest, ∃ bs, (p, some bs) ∈ s.script.gets ∧ b ∈ bs :=
      fun h => h.imp_right fun ⟨p, hp, bs, hg, hb⟩ => ⟨p, List.mem_cons_of_mem _ hp, bs, hs1.script.2.2 _ hg, hb⟩
    rcases a with _ | _ | bl
    · exact later (go_members rest s1 acc e true b hb)
    · exact later (go_members rest s1 acc true se b hb)
    · rcases later (go_members rest s1 (acc ++ bl) e se b hb) with h | h
      · exact (List.mem_append.mp h).imp_right fun h => ⟨(m, n), List.mem_cons_self .., bl, hm _ rfl, h⟩
      · exact .inr h

theorem go_flags (ps : List (Nat × Nat)) (s : St) (acc : List Blk) (e se : Bool) :
    (e = true → (load.go ps s acc e se).2.1 = true) ∧ (se = true → (load.go ps s acc e se).2.2.1 = true) := by
  fun_induction load.go ps s acc e se with
  | case1 => exact ⟨id, id⟩
  | case2 _ _ _ _ _ _ _ _ _ ih => exact ⟨ih.1, fun _ => ih.2 rfl⟩
  | case3 _ _ _ _ _ _ _ _ _ ih => exact ⟨fun _ => ih.1 rfl, ih.2⟩
  | case4 _ _ _ _ _ _ _ _ _ _ ih => exact ih

theorem go_noerr (ps : List (Nat × Nat)) (s : St) (acc : List Blk) (se : Bool)
    (hq : ∀ q ∈ s.script.gets, q.2 ≠ none) : (load.go ps s acc false se).2.1 = false := by
  fun_induction load.go ps s acc false se with
  | case1 => rfl
  | case2 m n _ s _ _ _ _ htg ih => exact ih fun q h => hq q ((htg ▸ takeGet_spec s m n).1.script.2.2 q h)
  | case3 m n _ s _ _ _ _ htg ih => exact absurd rfl (hq _ ((htg ▸ takeGet_spec s m n).2 _ rfl))
  | case4 m n _ s _ _ _ _ _ htg ih => exact ih fun q h => hq q ((htg ▸ takeGet_spec s m n).1.script.2.2 q h)

theorem load_same (t : Task) (s : St) (lh : String) (st lim : Nat) :
    Same s (load t s lh st lim).2 := by
  rw [load_eq]; exact go_same ..

/-- `Task.Delete(n)` after its first statement: the block number from which destination rows go —
    one past the newest position that remains (rows are written in batches that end at a recorded
    position), else the configured start, and never above `n` -/
def delN (t : Task) (v1 : DB) (ln : Nat) : Nat :=
  match v1.latestCur t.src t.ig with
  | some c => min ln (c.num + 1)
  | none => if t.start > 0 then min ln t.start else ln

/-- the view after `Task.Delete(ln)` -/
def delView (t : Task) (v : DB) (ln : Nat) : DB :=
  (v.delCur t.src t.ig ln).delRows t.table t.src t.ig (delN t (v.delCur t.src t.ig ln) ln)

/-- `Task.Delete(localNum)`, then `k` -/
def delK (t : Task) (fault : Option Pos) (k : St → Result) (s : St) (localNum : Nat) : Result :=
  let kk := s.nDel
  let s := { s with nDel := kk + 1 }
  if hit fault (.delcur kk) then { outcome := .err, db := s.db }
  else
    let v1 := s.view.delCur t.src t.ig localNum
    if hit fault (.qprev kk) then { outcome := .err, db := s.db }
    else
      if hit fault (.delrows kk) then { outcome := .err, db := s.db }
      else k { s with view := v1.delRows t.table t.src t.ig (delN t v1 localNum) }

theorem delK_cases (t : Task) (f : Option Pos) (s : St) (ln : Nat) :
    (∀ k, delK t f k s ln = { outcome := .err, db := s.db }) ∨
    ∀ k, delK t f k s ln = k { s with nDel := s.nDel + 1, view := delView t s.view ln } := by
  unfold delK
  dsimp only
  cases hit f (.delcur s.nDel)
  case true => exact .inl fun _ => rfl
  cases hit f (.qprev s.nDel)
  case true => exact .inl fun _ => rfl
  cases hit f (.delrows s.nDel)
  case true => exact .inl fun _ => rfl
  exact .inr fun _ => rfl

theorem delK_none (t : Task) (k : St → Result) (s : St) (ln : Nat) :
    delK t none k s ln = k { s with nDel := s.nDel + 1, view := delView t s.view ln } := rfl

-- the commit branch of the loop body, and the parts of it that the proofs name
def newRowsOf (t : Task) (bs : List Blk) : List TRow := bs.flatMap (rowsFor t)

def clashOf (db1 : DB) (newRows : List TRow) : Bool :=
  newRows.any (fun r => db1.rows.any fun o => o.table == r.table && o.key == r.key) ||
    !(newRows.map (·.key)).eraseDups.length == newRows.length

def curClash (t : Task) (v : DB) (n : Nat) : Bool :=
  v.cur.any (fun o => o.src == t.src && o.ig == t.ig && o.num == n)

def newCur (t : Task) (last : Blk) : Cur := { src := t.src, ig := t.ig, num := last.num, hash := last.hash }

def committed (t : Task) (v : DB) (bs : List Blk) (last : Blk) : DB :=
  { cur := v.cur ++ [newCur t last], rows := v.rows ++ newRowsOf t bs }

def commitStep (t : Task) (fault : Option Pos) (s : St) (bs : List Blk) : Result :=
  if hit fault .commit1 then { outcome := .err, db := s.db }
  else
    let db1 := s.view
    if hit fault .begin2 then { outcome := .err, db := db1, mid := some db1 }
    else if hit fault .insert then { outcome := .err, db := db1, mid := some db1 }
    else
      let newRows := newRowsOf t bs
      if clashOf db1 newRows then { outcome := .err, db := db1, mid := some db1 }
      else if hit fault .update then { outcome := .err, db := db1, mid := some db1 }
      else
        match bs.getLast? with
        | none => { outcome := .panic, db := db1, mid := some db1 }
        | some last =>
          if curClash t db1 last.num then { outcome := .err, db := db1, mid := some db1 }
          else if hit fault .commit2 then { outcome := .err, db := db1, mid := some db1 }
          else { outcome := .ok last.num, db := committed t db1 bs last, mid := some db1 }

theorem commitStep_cases (t : Task) (f : Option Pos) (s : St) (bs : List Blk) :
    (hit f .commit1 = true ∧ commitStep t f s bs = { outcome := .err, db := s.db }) ∨
    (∃ o, (o = .err ∨ o = .panic) ∧ commitStep t f s bs = { outcome := o, db := s.view, mid := some s.view }) ∨
    ∃ last, bs.getLast? = some last ∧ clashOf s.view (newRowsOf t bs) = false ∧ curClash t s.view last.num = false ∧
      commitStep t f s bs = { outcome := .ok last.num, db := committed t s.view bs last, mid := some s.view } := by
  unfold commitStep
  dsimp only
  by_cases h1 : hit f .commit1 = true
  · rw [if_pos h1]; exact .inl ⟨h1, rfl⟩
  rw [if_neg h1]
  right
  by_cases h2 : hit f .begin2 = true
  · rw [if_pos h2]; exact .inl ⟨_, .inl rfl, rfl⟩
  rw [if_neg h2]
  by_cases h3 : hit f .insert = true
  · rw [if_pos h3]; exact .inl ⟨_, .inl rfl, rfl⟩
  rw [if_neg h3]
  by_cases h4 : clashOf s.view (newRowsOf t bs) = true
  · rw [if_pos h4]; exact .inl ⟨_, .inl rfl, rfl⟩
  rw [if_neg h4]
  by_cases h5 : hit f .update = true
  · rw [if_pos h5]; exact .inl ⟨_, .inl rfl, rfl⟩
  rw [if_neg h5]
  rcases Option.eq_none_or_eq_some bs.getLast? with h6 | ⟨last, h6⟩ <;> rw [h6]
  · exact .inl ⟨_, .inr rfl, rfl⟩
  dsimp only
  by_cases h7 : curClash t s.view last.num = true
  · rw [if_pos h7]; exact .inl ⟨_, .inl rfl, rfl⟩
  rw [if_neg h7]
  by_cases h8 : hit f .commit2 = true
  · rw [if_pos h8]; exact .inl ⟨_, .inl rfl, rfl⟩
  rw [if_neg h8]
  exact .inr ⟨last, rfl, by simpa using h4, by simpa using h7, rfl⟩

theorem commitStep_none (t : Task) (s : St) (bs : List Blk) (last : Blk)
    (h1 : bs.getLast? = some last) (h2 : clashOf s.view (newRowsOf t bs) = false)
    (h3 : curClash t s.view last.num = false) :
    commitStep t none s bs = { outcome := .ok last.num, db := committed t s.view bs last, mid := some s.view } := by
  unfold commitStep
  simp only [hit_none, Bool.false_eq_true, ↓reduceIte, h1, h2, h3]

theorem commitStep_fault (t : Task) (p : Pos) (s : St) (bs : List Blk) :
    (commitStep t (some p) s bs).db = s.db ∨
    some (commitStep t (some p) s bs).db = (commitStep t none s bs).mid ∨
    (commitStep t (some p) s bs).db = (commitStep t none s bs).db := by
  rcases commitStep_cases t (some p) s bs with ⟨_, h⟩ | ⟨_, _, h⟩ | ⟨last, h1, h2, h3, h⟩ <;> rw [h]
  · exact .inl rfl
  · right; left
    rcases commitStep_cases t none s bs with ⟨h0, _⟩ | ⟨_, _, h0⟩ | ⟨_, _, _, _, h0⟩
    · cases h0
    · rw [h0]
    · rw [h0]
  · right; right; rw [commitStep_none t s bs last h1 h2 h3]

/-- the loop body after `load`: the match on its result -/
def afterLoad (t : Task) (fault : Option Pos) (k : St → Result) (localNum : Nat) : LoadRes × St → Result
  | (.scriptEnd, s) => { outcome := .err, db := s.db, scriptOk := false }
  | (.err, s) => { outcome := .err, db := s.db }
  | (.panic, s) => { outcome := .panic, db := s.db }
  | (.reorg, s) => delK t fault k s localNum
  | (.blocks bs, s) => commitStep t fault s bs

/-- one iteration of the loop; `k` is the next -/
def iterK (t : Task) (fault : Option Pos) (k : St → Result) (s : St) : Result :=
  planK t fault (fun ln lh d s => afterLoad t fault k ln (load t s lh (ln + 1) d)) s

theorem iterK_cases (t : Task) (f : Option Pos) (s : St) :
    (∃ r, Early t s.db r ∧ ∀ k, iterK t f k s = r) ∨
    ∃ ln lh d s1 lr s2, PlanGo t s ln lh d s1 ∧ load t s1 lh (ln + 1) d = (lr, s2) ∧ Same s s2 ∧
      ∀ f', f' = f ∨ f' = none → ∀ k, iterK t f' k s = afterLoad t f' k ln (lr, s2) := by
  rcases planK_spec t f s with ⟨r, he, hr⟩ | ⟨ln, lh, d, s1, hg, hK⟩
  · exact .inl ⟨r, he, fun _ => hr _⟩
  · exact .inr ⟨ln, lh, d, s1, _, _, hg, rfl, hg.same.trans (load_same t s1 lh (ln + 1) d),
      fun f' hf' _ => hK f' hf' _⟩

theorem loop_zero (t : Task) (fault : Option Pos) (s : St) :
    converge.loop t fault 0 s = { outcome := .reorgLimit, db := s.db } := rfl

theorem loop_succ (t : Task) (fault : Option Pos) (fuel : Nat) (s : St) :
    converge.loop t fault (fuel + 1) s = iterK t fault (converge.loop t fault fuel) s := by
  -- `rfl` alone does it, at four times the cost: it unfolds the model's side first
  unfold iterK planK; rfl

theorem converge_eq (t : Task) (db : DB) (sc : Script) (f : Option Pos) :
    converge t db sc f =
      if hit f .begin1 then { outcome := .err, db := db }
      else converge.loop t f 1001 { db := db, view := db, script := sc } := rfl

/-- `v` differs from `db` only in positions and rows of task `t` -/
structure Sub (t : Task) (db v : DB) : Prop where
  cur : (v.cur.filter fun x => !mineC t x) = (db.cur.filter fun x => !mineC t x)
  rows : (v.rows.filter fun x => !mine t x) = (db.rows.filter fun x => !mine t x)
  curm : ∀ x ∈ v.cur, x ∈ db.cur ∨ mineC t x = true
  rowsm : ∀ x ∈ v.rows, x ∈ db.rows ∨ mine t x = true

theorem Sub.refl (t : Task) (db : DB) : Sub t db db :=
  ⟨rfl, rfl, fun _ h => .inl h, fun _ h => .inl h⟩

theorem delView_cur (t : Task) (v : DB) (ln : Nat) :
    (delView t v ln).cur = v.cur.filter fun c => !(mineC t c && decide (c.num ≥ ln)) := rfl

theorem delView_rows (t : Task) (v : DB) (ln : Nat) :
    (delView t v ln).rows =
      v.rows.filter fun r => !(mine t r && decide (r.blk ≥ delN t (v.delCur t.src t.ig ln) ln)) := rfl

theorem delView_cur_sub {t : Task} {v : DB} {ln : Nat} {x : Cur} (h : x ∈ (delView t v ln).cur) : x ∈ v.cur :=
  (List.mem_filter.mp h).1

theorem delView_rows_sub {t : Task} {v : DB} {ln : Nat} {x : TRow} (h : x ∈ (delView t v ln).rows) : x ∈ v.rows :=
  (List.mem_filter.mp h).1

theorem Sub.delView {t : Task} {db v : DB} (h : Sub t db v) (ln : Nat) : Sub t db (delView t v ln) := by
  refine ⟨?_, ?_, fun x hx => h.curm x (delView_cur_sub hx), fun x hx => h.rowsm x (delView_rows_sub hx)⟩
  · rw [delView_cur, List.filter_filter, ← h.cur]
    apply List.filter_congr
    intro x _
    cases mineC t x <;> rfl
  · rw [delView_rows, List.filter_filter, ← h.rows]
    apply List.filter_congr
    intro x _
    cases mine t x <;> rfl

theorem mem_newRowsOf {t : Task} {bs : List Blk} {x : TRow} : x ∈ newRowsOf t bs ↔ ∃ b ∈ bs, ∃ kp ∈ b.rows,
    x = { table := t.table, src := t.src, ig := t.ig, blk := b.num, key := kp.1, pay := kp.2 } := by
  simp only [newRowsOf, rowsFor, List.mem_flatMap, List.mem_map]
  exact ⟨fun ⟨b, hb, kp, hk, h⟩ => ⟨b, hb, kp, hk, h.symm⟩, fun ⟨b, hb, kp, hk, h⟩ => ⟨b, hb, kp, hk, h.symm⟩⟩

theorem mine_newRows (t : Task) (bs : List Blk) : ∀ x ∈ newRowsOf t bs, mine t x = true := by
  intro x hx
  obtain ⟨_, _, _, _, rfl⟩ := mem_newRowsOf.mp hx
  simp [mine]

theorem mineC_newCur (t : Task) (last : Blk) : mineC t (newCur t last) = true := by
  simp [mineC, newCur]

theorem Sub.committed {t : Task} {db v : DB} (h : Sub t db v) (bs : List Blk) (last : Blk) :
    Sub t db (committed t v bs last) := by
  refine ⟨?_, ?_, fun x hx => ?_, fun x hx => ?_⟩
  · show List.filter _ (v.cur ++ [newCur t last]) = _
    rw [List.filter_append, h.cur]
    simp [mineC_newCur]
  · show List.filter _ (v.rows ++ newRowsOf t bs) = _
    rw [List.filter_append, h.rows, List.append_right_eq_self, List.filter_eq_nil_iff]
    intro a ha
    simp [mine_newRows t bs a ha]
  · rcases List.mem_append.mp hx with hx | hx
    · exact h.curm x hx
    · exact .inr (List.mem_singleton.mp hx ▸ mineC_newCur t last)
  · exact (List.mem_append.mp hx).elim (h.rowsm x) fun hx => .inr (mine_newRows t bs x hx)

/-- the open transaction's view: the committed state minus deleted positions/rows of `t` -/
structure View (t : Task) (db v : DB) : Prop where
  sub : Sub t db v
  curm : ∀ x ∈ v.cur, x ∈ db.cur
  rowsm : ∀ x ∈ v.rows, x ∈ db.rows

theorem View.refl (t : Task) (db : DB) : View t db db := ⟨Sub.refl _ _, fun _ h => h, fun _ h => h⟩

theorem View.delView {t : Task} {db v : DB} (h : View t db v) (ln : Nat) : View t db (delView t v ln) :=
  ⟨h.sub.delView ln, fun x hx => h.curm x (delView_cur_sub hx), fun x hx => h.rowsm x (delView_rows_sub hx)⟩

/-- the iteration in which a step of `t` from `db` with script `sc` reaches its commit phase: `s` at
    its start, `(ln, lh)` the local position, `d` the delta, `s1` after planning, `bs` the blocks
    loaded, `s2` after loading -/
structure AtCommit (t : Task) (db : DB) (sc : Script) where
  (s s1 s2 : St) (ln d : Nat) (lh : String) (bs : List Blk)
  dbEq : s.db = db
  view : View t db s.view
  le : s.script.le sc
  planned : PlanGo t s ln lh d s1
  loaded : load t s1 lh (ln + 1) d = (.blocks bs, s2)
  same : Same s s2

/-- C02: a fault cuts the fault-free step short, it does not steer it -/
theorem loop_cases (t : Task) (db : DB) (sc : Script) (f : Option Pos) : ∀ fuel s,
    s.db = db → View t db s.view → s.script.le sc →
    Early t db (converge.loop t f fuel s) ∨
    ∃ a : AtCommit t db sc, converge.loop t f fuel s = commitStep t f a.s2 a.bs ∧
      converge.loop t none fuel s = commitStep t none a.s2 a.bs := by
  intro fuel
  induction fuel with
  | zero => exact fun s hdb _ _ => .inl ⟨hdb, rfl, trivial⟩
  | succ n ih =>
    intro s hdb hv hle
    rw [loop_succ, loop_succ]
    rcases iterK_cases t f s with ⟨r, he, hr⟩ | ⟨ln, lh, d, s1, lr, s2, hg, hl, hss, hi⟩
    · rw [hr]
      exact .inl (hdb ▸ he)
    rw [hi f (.inl rfl), hi none (.inr rfl)]
    cases lr with
    | scriptEnd => exact .inl ⟨hss.db.trans hdb, rfl, trivial⟩
    | err => exact .inl ⟨hss.db.trans hdb, rfl, trivial⟩
    | panic => exact .inl ⟨hss.db.trans hdb, rfl, trivial⟩
    | reorg =>
      simp only [afterLoad, delK_none]
      rcases delK_cases t f s2 ln with hd | hd <;> rw [hd]
      · exact .inl ⟨hss.db.trans hdb, rfl, trivial⟩
      · exact ih _ (hss.db.trans hdb) (hss.view ▸ hv.delView ln) (Script.le_trans hss.script hle)
    | blocks bs => exact .inr ⟨⟨s, s1, s2, ln, d, lh, bs, hdb, hv, hle, hg, hl, hss⟩, rfl, rfl⟩

theorem converge_cases (t : Task) (db : DB) (sc : Script) (f : Option Pos) :
    Early t db (converge t db sc f) ∨
    ∃ a : AtCommit t db sc, converge t db sc f = commitStep t f a.s2 a.bs ∧
      converge t db sc none = commitStep t none a.s2 a.bs := by
  rw [converge_eq]
  split
  · exact .inl ⟨rfl, rfl, trivial⟩
  · exact loop_cases t db sc f 1001 _ rfl (View.refl _ _) (Script.le_refl _)

/-- `converge_cases` with the commit phase resolved -/
theorem converge_shape (t : Task) (db : DB) (sc : Script) (f : Option Pos) :
    (View t db (converge t db sc f).db ∧ (∀ m, (converge t db sc f).mid = some m → View t db m) ∧
      (∀ n, (converge t db sc f).outcome ≠ .ok n) ∧ ((converge t db sc f).outcome = .done → 0 < t.stop)) ∨
    ∃ (a : AtCommit t db sc) (last : Blk), a.bs.getLast? = some last ∧
      converge t db sc f =
        { outcome := .ok last.num, db := committed t a.s.view a.bs last, mid := some a.s.view } := by
  rcases converge_cases t db sc f with he | ⟨a, hr, _⟩
  · refine .inl ⟨?_, fun m hm => ?_, he.not_ok, he.done⟩
    · rw [he.db]; exact View.refl _ _
    · rw [he.mid] at hm; cases hm
  have hv : View t db a.s2.view := a.same.view ▸ a.view
  rw [hr]
  rcases commitStep_cases t f a.s2 a.bs with ⟨_, h⟩ | ⟨o, ho, h⟩ | ⟨last, hlast, _, _, h⟩ <;> rw [h]
  · rw [a.same.db, a.dbEq]
    exact .inl ⟨View.refl _ _, nofun, nofun, nofun⟩
  · exact .inl ⟨hv, fun m hm => by cases hm; exact hv, by rcases ho with rfl | rfl <;> nofun,
      by rcases ho with rfl | rfl <;> nofun⟩
  · exact .inr ⟨a, last, hlast, a.same.view ▸ rfl⟩

theorem converge_sub (t : Task) (db : DB) (sc : Script) (f : Option Pos) :
    Sub t db (converge t db sc f).db ∧ ∀ m, (converge t db sc f).mid = some m → Sub t db m := by
  rcases converge_shape t db sc f with ⟨h1, h2, _⟩ | ⟨a, last, _, h⟩
  · exact ⟨h1.sub, fun m hm => (h2 m hm).sub⟩
  · rw [h]
    exact ⟨a.view.sub.committed a.bs last, fun m hm => by cases hm; exact a.view.sub⟩

end Shovel.World
