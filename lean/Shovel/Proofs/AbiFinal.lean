import Shovel.Proofs.AbiRows
/-
  C09: from the decoder state `scanR` leaves behind to the rows of the row rule — what a row of
  written cells renders to (`row_correct`), the broadcast, the fallback row — and the theorem itself.
-/
namespace Shovel.Abi

/-- what `cellsToRow` picks for column `j` -/
def firstCell (lc : LCells) (j : Nat) : Option (Nat × Nat) := (lc.find? (fun c => c.1 == j)).map (·.2)

theorem firstCell_cons (c : Nat × (Nat × Nat)) (lc : LCells) (j : Nat) :
    firstCell (c :: lc) j = if c.1 = j then some c.2 else firstCell lc j := by
  unfold firstCell
  rw [List.find?_cons]
  by_cases h : c.1 = j
  · simp [h]
  · have : (c.1 == j) = false := by simpa using h
    rw [this, if_neg h]

theorem firstCell_none_of_not_mem {lc : LCells} {j : Nat} (h : j ∉ lc.map (·.1)) : firstCell lc j = none := by
  unfold firstCell
  rw [Option.map_eq_none_iff, List.find?_eq_none]
  intro x hx hxj
  apply h
  rw [List.mem_map]
  exact ⟨x, hx, by simpa using hxj⟩

theorem map_range_set {α} (w : Nat) (f : Nat → α) (p : Nat) (x : α) :
    ((List.range w).map f).set p x = (List.range w).map (fun j => if j = p then x else f j) := by
  apply List.ext_getElem (by simp)
  intro i _ _
  simp only [List.getElem_set, List.getElem_map, List.getElem_range, eq_comm]

theorem setCells_range (w : Nat) : (lc : LCells) → (f : Nat → Option (Nat × Nat)) →
    (lc.map (·.1)).Nodup →
    setCells lc ((List.range w).map f) =
      (List.range w).map (fun j => match firstCell lc j with | some x => some x | none => f j)
  | [], f, _ => by simp [setCells, firstCell]
  | c :: lc, f, hnd => by
    rw [List.map_cons, List.nodup_cons] at hnd
    have ih := setCells_range w lc (fun j => if j = c.1 then some c.2 else f j) hnd.2
    have : setCells (c :: lc) ((List.range w).map f) =
        setCells lc (((List.range w).map f).set c.1 (some c.2)) := rfl
    rw [this, map_range_set, ih]
    apply List.map_congr_left
    intro j _
    rw [firstCell_cons]
    by_cases hj : c.1 = j
    · subst hj
      rw [firstCell_none_of_not_mem hnd.1]; simp
    · rw [if_neg hj, if_neg (fun h => hj h.symm)]

theorem setCells_empty (w : Nat) (lc : LCells) (hnd : (lc.map (·.1)).Nodup) :
    setCells lc (List.replicate w none) = (List.range w).map (firstCell lc) := by
  have h : List.replicate w (none : Option (Nat × Nat)) = (List.range w).map (fun _ => none) := by
    rw [List.map_const', List.length_range]
  rw [h, setCells_range w lc _ hnd]
  apply List.map_congr_left
  intro j _
  cases firstCell lc j <;> rfl

/-- `cellBytes` of Props/C09 -/
def cb (b : Buf) (c : Option (Nat × Nat)) : Option (List Nat) :=
  c.map fun (lo, hi) => (b.data.take hi).drop lo

theorem cell_correct {b : Buf} {lc l : LCells} {lv r : Cells} (h1 : Loc b lc lv) (h2 : Loc b l r)
    (j : Nat) :
    cb b (bcastCell (firstCell l j) (firstCell lc j)) =
      match (lv ++ r).find? (fun c => c.1 == j && !c.2.isEmpty) with
      | some c => some c.2
      | none => none := by
  rw [List.find?_append, h1.find, h2.find]
  unfold firstCell
  cases hc : lc.find? (fun c => c.1 == j) with
  | none =>
    simp only [Option.map_none, Option.none_or, bcastCell]
    cases l.find? (fun c => c.1 == j) <;> rfl
  | some c =>
    have hp := h1.pos (List.mem_of_find?_eq_some hc)
    obtain ⟨p, lo, hi⟩ := c
    simp only at hp
    simp only [Option.map_some, Option.some_or, bcastCell, if_pos hp]
    rfl

theorem row_correct {b : Buf} (w : Nat) {lc l : LCells} {lv r : Cells} (h1 : Loc b lc lv)
    (h2 : Loc b l r) (n1 : (lc.map (·.1)).Nodup) (n2 : (l.map (·.1)).Nodup) :
    (bcast (setCells lc (List.replicate w none)) (setCells l (List.replicate w none))).map (cb b) =
      cellsToRow w (lv ++ r) := by
  rw [setCells_empty w lc n1, setCells_empty w l n2]
  unfold bcast cellsToRow
  rw [List.zip_map', List.map_map, List.map_map]
  apply List.map_congr_left
  intro j _
  exact cell_correct h1 h2 j

/-- `S` is the duplicate-free list the keys of every row are a sublist of (`t.sels`): that is where
    the per-row `Nodup` of keys, which `row_correct` needs, comes from -/
theorem rows_correct {b : Buf} (w : Nat) {lc : LCells} {lv : Cells} (S : List Nat) (hS : S.Nodup)
    (h1 : Loc b lc lv) (n1 : (lc.map (·.1)).Nodup)
    (lr : List LCells) (rows : List Cells) (h : LocRows b lr rows)
    (hk : ∀ r ∈ rows, (r.map (·.1)).Sublist S) :
    ((lr.map (fun l => setCells l (List.replicate w none))).map
        (bcast (setCells lc (List.replicate w none)))).map (fun row => row.map (cb b)) =
      rows.map (fun r => cellsToRow w (lv ++ r)) := by
  fun_induction LocRows b lr rows with
  | case1 => rfl
  | case2 l lr r rows ih =>
    have n2 : (l.map (·.1)).Nodup := (h.1.keys.trans (hk r List.mem_cons_self)).nodup hS
    have ih := ih h.2 fun r' hr' => hk r' (List.mem_cons_of_mem _ hr')
    simp only [List.map_cons]
    rw [row_correct w h1 h.1 n1 n2]
    simp only [List.map_map] at ih ⊢
    rw [ih]
  | case3 => exact h.elim

/-- `scan_encode` with the state invariant of the (reused) decoder re-established afterwards -/
theorem scan_encode_core_wf (t : Ty) (v : Val) (rest : List Nat) (cap : Nat) (s : St)
    (hdom : t.inDomain = true) (hsel : t.sels = List.range t.nsel)
    (hwt : WellTyped t v = true)
    (hsize : (enc t v ++ rest).length < 2 ^ 63) (hcap : (enc t v ++ rest).length ≤ cap)
    (hs : s.ncols = t.nsel ∧ s.single.length = t.nsel ∧ (∀ row ∈ s.coll, row.length = t.nsel) ∧
      s.n ≤ s.coll.length) :
    ∃ s', resultScan ⟨enc t v ++ rest, cap⟩ t s = .ok s' ∧
      s'.rows.map (fun row => row.map (cb ⟨enc t v ++ rest, cap⟩)) = rowsOf t v ∧ WF s' t.nsel := by
  generalize hbdef : (⟨enc t v ++ rest, cap⟩ : Buf) = b
  have hb : BufOK b := by subst hbdef; exact ⟨hcap, hsize⟩
  have hat : At b 0 (enc t v) := by subst hbdef; exact ⟨[], rest, by simp, rfl⟩
  have hw : ∀ p ∈ t.sels, p < t.nsel := by
    intro p hp; rw [hsel] at hp; exact List.mem_range.mp hp
  have hS : t.sels.Nodup := by rw [hsel]; exact List.nodup_range
  obtain ⟨lc, lr, h1, h2, h3⟩ := scanR hb t.nsel t v 0 hw hdom hwt hat
  have hwf0 : WF { s with n := 0, single := s.single.map fun _ => none } t.nsel :=
    ⟨hs.1, by simp [hs.2.1], hs.2.2.1, Nat.zero_le _⟩
  have hscan : scan b t 0 .single _ = _ := h3 _ hwf0
  refine ⟨_, by rw [resultScan_eq, hscan]; rfl, ?_⟩
  generalize hs0' : writeCells .single lc { s with n := 0, single := s.single.map fun _ => none } = s0'
  have hwf0' : WF s0' t.nsel := by rw [← hs0']; exact WF_writeCells_single hwf0 lc
  have hn0 : s0'.n = 0 := by rw [← hs0', writeCells_single]
  have hsg : s0'.single = setCells lc (List.replicate t.nsel none) := by
    rw [← hs0', writeCells_single]
    simp only [List.map_const', hs.2.1]
  -- the rows that end up in the collection (with the fallback row)
  have key : ∃ lrF rowsF, LocRows b lrF rowsF ∧ (∀ r ∈ rowsF, (r.map (·.1)).Sublist t.sels) ∧
      oneRow (pushRows lr s0') = pushRows lrF s0' ∧
      rowsOf t v = rowsF.map (fun r => cellsToRow t.nsel (leaves t v ++ r)) := by
    cases lr with
    | nil =>
      have hr := h2.nil_left
      refine ⟨[[]], [[]], ⟨Loc.nil b, trivial⟩, ?_, ?_, ?_⟩
      · intro r hr; simp at hr; subst hr; exact List.nil_sublist _
      · rw [pushRows_nil, oneRow, if_pos hn0]; rfl
      · unfold rowsOf; rw [hr]; rfl
    | cons l lr' =>
      have hr := h2.cons_left
      refine ⟨l :: lr', arrRows t v, h2, arrRows_keys t v, ?_, ?_⟩
      · have := (pushRows_spec (l :: lr') hwf0').2.1
        rw [oneRow, if_neg (by rw [this]; simp)]
      · unfold rowsOf
        have : (arrRows t v).isEmpty = false := by
          cases h : arrRows t v with
          | nil => exact absurd h hr
          | cons _ _ => rfl
        simp only [this]
        rfl
  obtain ⟨lrF, rowsF, k1, k2, k3, k4⟩ := key
  obtain ⟨p1, p2, p3, p4⟩ := pushRows_spec lrF hwf0'
  rw [← k3] at p1 p2 p3 p4
  refine ⟨?_, finish_WF p1⟩
  -- `finish` broadcasts the singleton (`p3`, `hsg`: the cells of `lc`) into the first `n` rows
  -- (`p2`, `p4`: those pushed from `lrF`, since `n` was 0)
  rw [finish_rows p1.2.2.2, p2, p4, p3, hn0, hsg, k4]
  simp only [List.take_zero, List.nil_append]
  have n1 : (lc.map (·.1)).Nodup := (h1.keys.trans (leaves_keys t v)).nodup hS
  exact rows_correct t.nsel t.sels hS h1 n1 lrF rowsF k1 k2

end Shovel.Abi
