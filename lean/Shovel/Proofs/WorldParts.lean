import Shovel.Model.World
/-
  Arithmetic of the partition ranges `parts` that `load` spawns.
-/
namespace Shovel.World

/-- consecutive non-empty ranges starting at `s` -/
def Consec : Nat → List (Nat × Nat) → Prop
  | _, [] => True
  | s, (m, n) :: r => m = s ∧ 1 ≤ n ∧ Consec (s + n) r

def psum (ps : List (Nat × Nat)) : Nat := (ps.map (·.2)).sum

@[simp] theorem psum_nil : psum [] = 0 := rfl
@[simp] theorem psum_cons (p : Nat × Nat) (r) : psum (p :: r) = p.2 + psum r := by
  simp [psum]
theorem psum_append (a b : List (Nat × Nat)) : psum (a ++ b) = psum a + psum b := by
  simp [psum, List.sum_append]

theorem consec_append (s : Nat) (a b : List (Nat × Nat)) :
    Consec s (a ++ b) ↔ Consec s a ∧ Consec (s + psum a) b := by
  induction a generalizing s with
  | nil => simp [Consec]
  | cons p r ih =>
    obtain ⟨m, n⟩ := p
    simp only [List.cons_append, Consec, ih, psum_cons, Nat.add_assoc, and_assoc]

theorem consec_getElem (s : Nat) (ps : List (Nat × Nat)) (h : Consec s ps) :
    ∀ i m n, ps[i]? = some (m, n) → m = s + psum (ps.take i) ∧ 1 ≤ n := by
  induction ps generalizing s with
  | nil => intro i m n hi; simp at hi
  | cons p r ih =>
    obtain ⟨m0, n0⟩ := p
    obtain ⟨h1, h2, h3⟩ := h
    intro i m n hi
    cases i with
    | zero =>
      simp at hi
      obtain ⟨rfl, rfl⟩ := hi
      simp [h1, h2]
    | succ j =>
      simp only [List.getElem?_cons_succ] at hi
      have := ih _ h3 j m n hi
      simp only [List.take_succ_cons, psum_cons]
      omega

theorem consec_lower (s : Nat) (ps : List (Nat × Nat)) (h : Consec s ps) :
    ∀ p ∈ ps, s ≤ p.1 ∧ 1 ≤ p.2 := by
  intro p hp
  obtain ⟨i, hi⟩ := List.getElem?_of_mem hp
  have := consec_getElem s ps h i p.1 p.2 hi
  omega

/-- the wrap-free form of `parts` -/
def partsS (part start limit conc : Nat) : List (Nat × Nat) :=
  (List.range conc).filterMap fun i =>
    if i * part < limit then some (start + i * part, min part (limit - i * part)) else none

theorem part_bounds (batch conc : Nat) (hb : 1 ≤ batch) (hcb : conc * batch < 2 ^ 63) :
    1 ≤ max 1 (batch / conc) ∧ max 1 (batch / conc) ≤ batch ∧ conc * max 1 (batch / conc) < 2 ^ 63 := by
  have h1 : batch / conc ≤ batch := Nat.div_le_self _ _
  have h2 : max 1 (batch / conc) ≤ batch := by omega
  have h3 : conc * max 1 (batch / conc) ≤ conc * batch := Nat.mul_le_mul_left _ h2
  omega

/-- `limit - q` in 64-bit arithmetic, when it does not wrap -/
theorem sub_wrap {limit q : Nat} (hl : limit < U64) (hq : q ≤ limit) : (limit + U64 - q) % U64 = limit - q := by
  rw [show limit + U64 - q = limit - q + U64 by omega, Nat.add_mod_right]
  exact Nat.mod_eq_of_lt (by omega)

theorem filterMap_congr {α β} (l : List α) (f g : α → Option β) (h : ∀ x ∈ l, f x = g x) :
    l.filterMap f = l.filterMap g := by
  induction l with
  | nil => rfl
  | cons a r ih =>
    simp only [List.filterMap_cons, h a (List.mem_cons_self ..)]
    rw [ih (fun x hx => h x (List.mem_cons_of_mem _ hx))]

theorem parts_eq (batch conc start limit : Nat) (hb : 1 ≤ batch)
    (hs : start + limit < 2 ^ 63) (hcb : conc * batch < 2 ^ 63) :
    parts batch conc start limit = partsS (max 1 (batch / conc)) start limit conc := by
  unfold parts partsS
  apply filterMap_congr
  intro i hi
  have hi : i < conc := List.mem_range.mp hi
  obtain ⟨p1, p2, p3⟩ := part_bounds batch conc hb hcb
  generalize max 1 (batch / conc) = part at *
  have hq : i * part < 2 ^ 63 := Nat.lt_of_le_of_lt (Nat.mul_le_mul_right _ (Nat.le_of_lt hi)) p3
  generalize i * part = q at *
  -- fewer hypotheses for `omega`
  clear p2 p3 hi hcb hb
  have hU : U64 = 2 ^ 64 := rfl
  have e2 : q % U64 = q := Nat.mod_eq_of_lt (by omega)
  rw [e2]
  by_cases hql : q ≤ limit
  · rw [Nat.mod_eq_of_lt (show start + q < U64 by omega), sub_wrap (by omega) hql]
    by_cases hlt : q < limit
    · rw [if_neg (by omega), if_pos hlt]
    · rw [if_pos (.inr (by omega)), if_neg hlt]
  · rw [Nat.mod_eq_of_lt (show start + q < U64 by omega), if_pos (.inl (by omega)), if_neg (by omega)]

theorem partsS_spec (part start limit conc : Nat) (hp : 1 ≤ part) :
    psum (partsS part start limit conc) = min limit (conc * part) ∧
    Consec start (partsS part start limit conc) := by
  induction conc with
  | zero => simp [partsS, Consec]
  | succ k ih =>
    obtain ⟨ih1, ih2⟩ := ih
    have e : partsS part start limit (k + 1) = partsS part start limit k ++
        (if k * part < limit then [(start + k * part, min part (limit - k * part))] else []) := by
      unfold partsS
      rw [List.range_succ, List.filterMap_append]
      congr 1
      by_cases h : k * part < limit <;> simp [h]
    have hk : (k + 1) * part = k * part + part := Nat.succ_mul _ _
    rw [e, psum_append, consec_append, ih1, hk]
    generalize k * part = q at *
    by_cases h : q < limit
    · simp only [h, if_true, psum_cons, psum_nil, Consec, Nat.add_zero]
      refine ⟨?_, ih2, by omega, by omega, trivial⟩
      -- `omega` pays a million for the three `min`s and the subtraction
      rw [Nat.min_eq_right (Nat.le_of_lt h), ← Nat.add_min_add_left, Nat.add_sub_cancel' (Nat.le_of_lt h),
        Nat.min_comm]
    · simp only [h, if_false, psum_nil, Consec]
      refine ⟨by omega, ih2, trivial⟩

theorem parts_spec (batch conc start limit : Nat) (hb : 1 ≤ batch) (hc : 1 ≤ conc)
    (hl : 1 ≤ limit) (hs : start + limit < 2 ^ 63) (hcb : conc * batch < 2 ^ 63) :
    1 ≤ psum (parts batch conc start limit) ∧ psum (parts batch conc start limit) ≤ limit ∧
    Consec start (parts batch conc start limit) := by
  rw [parts_eq batch conc start limit hb hs hcb]
  obtain ⟨p1, p2, p3⟩ := part_bounds batch conc hb hcb
  obtain ⟨h1, h2⟩ := partsS_spec (max 1 (batch / conc)) start limit conc p1
  refine ⟨?_, ?_, h2⟩
  · rw [h1]
    have : 1 * 1 ≤ conc * max 1 (batch / conc) := Nat.mul_le_mul hc p1
    omega
  · rw [h1]; omega

/-- no bound on `start`: also when the 64-bit arithmetic wraps -/
theorem parts_upper (batch conc start limit : Nat) (hb : 1 ≤ batch) (hc : 1 ≤ conc)
    (hlb : limit ≤ batch) (hcb : conc * batch < 2 ^ 63) :
    ∀ p ∈ parts batch conc start limit, p.1 + p.2 ≤ start + limit := by
  intro p hp
  unfold parts at hp
  simp only [List.mem_filterMap, List.mem_range] at hp
  obtain ⟨i, hi, hp⟩ := hp
  obtain ⟨p1, p2, p3⟩ := part_bounds batch conc hb hcb
  generalize max 1 (batch / conc) = part at *
  have hq : i * part < 2 ^ 63 := Nat.lt_of_le_of_lt (Nat.mul_le_mul_right _ (Nat.le_of_lt hi)) p3
  generalize i * part = q at *
  have hU : U64 = 2 ^ 64 := rfl
  have hbb : batch < 2 ^ 63 := Nat.lt_of_le_of_lt (Nat.le_mul_of_pos_left _ hc) hcb
  -- fewer hypotheses for `omega`
  clear p1 p3 hi hcb hc hb
  rw [Nat.mod_eq_of_lt (show q < U64 by omega)] at hp
  split at hp
  · cases hp
  rename_i hcond
  cases hp
  show (start + q) % U64 + min part ((limit + U64 - q) % U64) ≤ start + limit
  have hA : (start + q) % U64 ≤ start + q := Nat.mod_le _ _
  by_cases hql : q ≤ limit
  · rw [sub_wrap (by omega) hql]
    have := Nat.min_le_right part (limit - q)
    omega
  · -- the length is at most a whole part, and the range is kept only if its start wrapped around
    have := Nat.min_le_left part ((limit + U64 - q) % U64)
    by_cases hw : start + q < U64
    · rw [Nat.mod_eq_of_lt hw] at hcond; omega
    · have : (start + q) % U64 = (start + q - U64) % U64 := by
        conv => lhs; rw [show start + q = start + q - U64 + U64 by omega, Nat.add_mod_right]
      have := Nat.mod_le (start + q - U64) U64
      omega

end Shovel.World
