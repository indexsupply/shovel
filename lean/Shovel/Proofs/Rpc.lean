import Shovel.Spec.Rpc
/-
  Helper lemmas for C07 (Shovel/Props/C07.lean).  Every step of the block request is described by
  two facts: it `keeps` every block (`Rel keeps`), and afterwards the list holds, for every
  non-empty hash a reply named for block `N`, a block `N` with that hash (`Has`).  That a named hash
  agrees with the hash held before the step follows from the two (`Has.agree`).
-/
namespace Shovel.Rpc

inductive Rel (R : Block → Block → Prop) : List Block → List Block → Prop
  | nil : Rel R [] []
  | cons {a b : Block} {as bs : List Block} : R a b → Rel R as bs → Rel R (a :: as) (b :: bs)

theorem Rel.flip {R : Block → Block → Prop} : ∀ {l1 l2}, Rel R l1 l2 → Rel (fun a b => R b a) l2 l1
  | _, _, .nil => .nil
  | _, _, .cons h t => .cons h t.flip

theorem Rel.length_eq {R : Block → Block → Prop} : ∀ {l1 l2}, Rel R l1 l2 → l2.length = l1.length
  | _, _, .nil => rfl
  | _, _, .cons _ t => by simp [Rel.length_eq t]

theorem Rel.get_left {R : Block → Block → Prop} : ∀ {l1 l2}, Rel R l1 l2 → ∀ {i : Nat} {a : Block}, l1[i]? = some a →
    ∃ b, l2[i]? = some b ∧ R a b
  | _, _, .nil, _, _, h => by cases h
  | _, _, .cons h1 _, 0, _, h => by cases h; exact ⟨_, rfl, h1⟩
  | _, _, .cons _ t, _ + 1, _, h => t.get_left h

theorem Rel.get_right {R : Block → Block → Prop} {l1 l2} (h : Rel R l1 l2) {i : Nat} {b : Block}
    (hb : l2[i]? = some b) : ∃ a, l1[i]? = some a ∧ R a b :=
  h.flip.get_left hb

theorem Rel.mem_left {R : Block → Block → Prop} {l1 l2} (h : Rel R l1 l2) {a} (ha : a ∈ l1) :
    ∃ b, b ∈ l2 ∧ R a b := by
  obtain ⟨i, hi⟩ := List.mem_iff_getElem?.1 ha
  obtain ⟨b, hb, hr⟩ := h.get_left hi
  exact ⟨b, List.mem_of_getElem? hb, hr⟩

theorem Rel.map_eq {R : Block → Block → Prop} {β : Type} (f : Block → β) (hf : ∀ a b, R a b → f b = f a) :
    ∀ {l1 l2}, Rel R l1 l2 → l2.map f = l1.map f
  | _, _, .nil => rfl
  | _, _, .cons h t => by simp [hf _ _ h, Rel.map_eq f hf t]

theorem Rel.mono {R S : Block → Block → Prop} (h : ∀ a b, R a b → S a b) :
    ∀ {l1 l2}, Rel R l1 l2 → Rel S l1 l2
  | _, _, .nil => .nil
  | _, _, .cons h1 t => .cons (h _ _ h1) (Rel.mono h t)

theorem keeps.refl (a : Block) : keeps a a := ⟨rfl, rfl, fun _ => rfl⟩

theorem keeps.hash_eq {a b : Block} (h : keeps a b) {H : String} (hH : H ≠ "") (ha : a.hash = H) : b.hash = H :=
  (h.2.2 (ha ▸ hH)).trans ha

theorem keeps.trans {a b d : Block} (h1 : keeps a b) (h2 : keeps b d) : keeps a d :=
  ⟨h2.1.trans h1.1, h2.2.1.trans h1.2.1, fun hne => h2.hash_eq hne (h1.2.2 hne)⟩

theorem Rel.keeps_refl : ∀ l, Rel keeps l l
  | [] => .nil
  | a :: l => .cons (keeps.refl a) (Rel.keeps_refl l)

theorem Rel.keeps_trans : ∀ {l1 l2 l3 : List Block}, Rel keeps l1 l2 → Rel keeps l2 l3 → Rel keeps l1 l3
  | _, _, _, .nil, .nil => .nil
  | _, _, _, .cons h1 t1, .cons h2 t2 => .cons (h1.trans h2) (t1.keeps_trans t2)

def Has (N : Nat) (H : String) (s : List Block) : Prop := ∃ x ∈ s, x.num = N ∧ x.hash = H

theorem Has.mono {N : Nat} {H : String} {s s' : List Block} (hH : H ≠ "") (hrel : Rel keeps s s')
    (h : Has N H s) : Has N H s' := by
  obtain ⟨x, hx, hn, hh⟩ := h
  obtain ⟨y, hy, hk⟩ := hrel.mem_left hx
  exact ⟨y, hy, hk.1.trans hn, hk.hash_eq hH hh⟩

theorem Has.agree {N : Nat} {H : String} {s s' : List Block} (hrel : Rel keeps s s') (h : Has N H s')
    {b : Block} (hn : b.num = N) (hne : b.hash ≠ "") (hu : ∀ b2 ∈ s, b2.num = b.num → b2 = b) :
    H = b.hash := by
  obtain ⟨x, hx, hxn, hxh⟩ := h
  obtain ⟨a, ha, hk⟩ := hrel.flip.mem_left hx
  cases hu a ha (by rw [← hk.1, hxn, hn])
  rw [← hxh, hk.2.2 hne]

theorem num_of_map_range' {bs : List Block} {s n : Nat} (h : bs.map (·.num) = List.range' s n) {j : Nat} {b : Block}
    (hb : bs[j]? = some b) : b.num = s + j ∧ j < n := by
  have := congrArg (·[j]?) h
  simp [hb] at this
  by_cases hj : j < n
  · rw [List.getElem?_range' hj] at this
    simp at this
    exact ⟨this, hj⟩
  · rw [List.getElem?_eq_none (by simp; omega)] at this
    cases this

theorem Has.unique {s n : Nat} {bs : List Block} (hnum : bs.map (·.num) = List.range' s n) {N : Nat} {H : String}
    (h : Has N H bs) : ∀ b ∈ bs, b.num = N → b.hash = H := by
  obtain ⟨x, hx, hxn, hxh⟩ := h
  intro b hb hbn
  obtain ⟨j1, hj1, rfl⟩ := List.getElem_of_mem hx
  obtain ⟨j2, hj2, rfl⟩ := List.getElem_of_mem hb
  have h1 := (num_of_map_range' hnum (List.getElem?_eq_getElem hj1)).1
  have h2 := (num_of_map_range' hnum (List.getElem?_eq_getElem hj2)).1
  have : j1 = j2 := by omega
  subst this
  exact hxh

theorem exists_of_range' {s n : Nat} {bs : List Block} (hnum : bs.map (·.num) = List.range' s n) {m : Nat}
    (h1 : s ≤ m) (h2 : m < s + n) : ∃ b ∈ bs, b.num = m := by
  have hl : bs.length = n := by simpa using congrArg List.length hnum
  have hj : m - s < bs.length := by omega
  have := (num_of_map_range' hnum (List.getElem?_eq_getElem hj)).1
  exact ⟨bs[m - s], List.getElem_mem hj, by omega⟩

theorem setHash_some {b b' : Block} {x : String} (h : setHash b x = some b') :
    b'.num = b.num ∧ b'.parent = b.parent ∧ b'.txs = b.txs ∧ (b.hash ≠ "" → b'.hash = b.hash) ∧
      (x ≠ "" → b'.hash = x) ∧ (x = "" → b' = b) := by
  unfold setHash at h
  by_cases hx : (x == "") = true
  · rw [if_pos hx] at h
    cases h
    simp at hx
    exact ⟨rfl, rfl, rfl, fun _ => rfl, fun hne => absurd hx hne, fun _ => rfl⟩
  · rw [if_neg hx] at h
    split at h
    · cases h
    · rename_i hc
      simp at hc h hx
      subst h
      exact ⟨rfl, rfl, rfl, fun h1 => (hc h1).symm, fun _ => rfl, fun h0 => absurd h0 hx⟩

theorem setHash_keep {b b' : Block} {x : String} (h : setHash b x = some b') : keeps b b' :=
  ⟨(setHash_some h).1, (setHash_some h).2.1, (setHash_some h).2.2.2.1⟩

theorem setHash_hash {b b' : Block} {x : String} (h : setHash b x = some b') (hx : x ≠ "") :
    b'.hash = x :=
  (setHash_some h).2.2.2.2.1 hx

theorem setHash_agree {b b' : Block} {x : String} (h : setHash b x = some b') (hb : b.hash ≠ "") (hx : x ≠ "") :
    x = b.hash := by
  rw [← setHash_hash h hx, (setHash_keep h).2.2 hb]

@[simp] theorem withTx_num (b : Block) (i : Nat) (f : Tx → Tx) : (withTx b i f).num = b.num := by
  unfold withTx; split <;> rfl
@[simp] theorem withTx_hash (b : Block) (i : Nat) (f : Tx → Tx) : (withTx b i f).hash = b.hash := by
  unfold withTx; split <;> rfl
@[simp] theorem withTx_parent (b : Block) (i : Nat) (f : Tx → Tx) : (withTx b i f).parent = b.parent := by
  unfold withTx; split <;> rfl

theorem keeps_withTx (b : Block) (i : Nat) (f : Tx → Tx) : keeps b (withTx b i f) :=
  ⟨withTx_num .., withTx_parent .., fun _ => withTx_hash ..⟩

theorem keeps_foldl_withTx {α : Type} (g : α → Nat) (f : α → Tx → Tx) (l : List α) (x : Block) :
    keeps x (l.foldl (fun b a => withTx b (g a) (f a)) x) :=
  List.foldlRecOn l _ (keeps.refl x) fun _ hb _ _ => hb.trans (keeps_withTx ..)

/-- `Q`: what the caller wants to know of the updated block -/
theorem updBlock_spec {n : Nat} {f : Block → Option Block} {Q : Block → Prop}
    (hf : ∀ b b', b.num = n → f b = some b' → keeps b b' ∧ Q b') {bs bs' : List Block}
    (h : updBlock bs n f = some bs') : Rel keeps bs bs' ∧ ∃ b' ∈ bs', b'.num = n ∧ Q b' := by
  fun_induction updBlock bs n f generalizing bs' with
  | case1 => cases h
  | case2 b rest hb =>
    obtain ⟨b', hfb, rfl⟩ := Option.map_eq_some_iff.1 h
    obtain ⟨hk, hq⟩ := hf b b' (by simpa using hb) hfb
    exact ⟨.cons hk (Rel.keeps_refl rest), b', List.mem_cons_self, hk.1.trans (by simpa using hb), hq⟩
  | case3 b rest _ ih =>
    obtain ⟨r', hu, rfl⟩ := Option.map_eq_some_iff.1 h
    obtain ⟨hrel, b', hb', hq⟩ := ih hu
    exact ⟨.cons (keeps.refl b) hrel, b', List.mem_cons_of_mem _ hb', hq⟩

theorem updBlock_attach {α : Type} {bn : α → Nat} {bh : α → String} {l : List α} {n : Nat}
    {f : Block → Option Block} {bs bs' : List Block}
    (hf : ∀ b b', f b = some b' → keeps b b' ∧ ∀ i ∈ l, bn i = n ∧ (bh i ≠ "" → b'.hash = bh i))
    (h : updBlock bs n f = some bs') :
    Rel keeps bs bs' ∧ ∀ i ∈ l, bn i = n ∧ (bh i ≠ "" → Has (bn i) (bh i) bs') := by
  obtain ⟨hrel, b', hb', hbn, hq⟩ := updBlock_spec (fun b b' _ => hf b b') h
  exact ⟨hrel, fun i hi => ⟨(hq i hi).1, fun hne => ⟨b', hb', hbn.trans (hq i hi).1.symm, (hq i hi).2 hne⟩⟩⟩

theorem foldl_none {α β : Type} {F : Option β → α → Option β} (hn : ∀ i, F none i = none)
    (l : List α) : l.foldl F none = none :=
  List.foldlRecOn (motive := (· = none)) l F rfl fun _ hb i _ => hb ▸ hn i

/-- successful steps climb the preorder `le`; `W i` is stable upwards -/
theorem foldl_opt {α β : Type} {F : Option β → α → Option β} (hn : ∀ i, F none i = none)
    {le : β → β → Prop} (hrefl : ∀ s, le s s) (htrans : ∀ a b c, le a b → le b c → le a c)
    {W : α → β → Prop} (hmono : ∀ i a b, le a b → W i a → W i b) :
    ∀ (l : List α), (∀ s i s', i ∈ l → F (some s) i = some s' → le s s' ∧ W i s') →
      ∀ s s', l.foldl F (some s) = some s' → le s s' ∧ ∀ i ∈ l, W i s'
  | [], _, s, s', h => by
    simp at h; subst h; exact ⟨hrefl s, by simp⟩
  | i :: l, hstep, s, s', h => by
    rw [List.foldl_cons] at h
    cases hF : F (some s) i with
    | none => rw [hF, foldl_none hn] at h; cases h
    | some s1 =>
      rw [hF] at h
      obtain ⟨hle, hw⟩ := hstep s i s1 List.mem_cons_self hF
      obtain ⟨hle', hws⟩ := foldl_opt hn hrefl htrans hmono l
        (fun s i s' hm => hstep s i s' (List.mem_cons_of_mem _ hm)) s1 s' h
      refine ⟨htrans _ _ _ hle hle', fun j hj => ?_⟩
      rcases List.mem_cons.1 hj with rfl | hj
      · exact hmono _ _ _ hle' hw
      · exact hws j hj

/-- the batch element a validated block came from -/
def elOf (b : Block) : El (Hdr × List Nat) :=
  .val ({ num := b.num, hash := b.hash, parent := b.parent }, b.txs.map (·.idx))

theorem validate_go_some {start : Nat} {l : List (El (Hdr × List Nat))} {i : Nat} {prev : Option String}
    {bs : List Block} (h : validate.go start l i prev = some bs) :
    l = bs.map elOf ∧ bs.map (·.num) = List.range' (start + i) l.length ∧
    (∀ p b, prev = some p → bs[0]? = some b → b.parent = p) ∧
    ∀ j b b', bs[j]? = some b → bs[j + 1]? = some b' → b'.parent = b.hash := by
  fun_induction validate.go start l i prev generalizing bs with
  | case1 => cases h; simp
  | case2 | case3 | case4 | case5 | case6 => cases h
  | case7 hd txs rest i prev hnum hpar bs1 hgo ih =>
    cases h
    obtain ⟨h1, h2, h3, h4⟩ := ih hgo
    simp at hnum
    refine ⟨?_, ?_, ?_, ?_⟩
    · simp [elOf, ← h1, Function.comp_def]
    · simp [List.range'_succ, hnum, h2, Nat.add_assoc]
    · rintro p b rfl hb
      cases hb
      simpa using hpar
    · intro j b b' hb hb'
      cases j with
      | zero => cases hb; exact h3 _ _ rfl hb'
      | succ j => exact h4 j b b' hb hb'

theorem validate_spec {start limit : Nat} {es : List (El (Hdr × List Nat))} {bs : List Block}
    (h : validate start limit es = some bs) :
    0 < limit ∧ limit ≤ es.length ∧ (∀ e ∈ es, ∃ a, e = .val a) ∧
    bs.map (·.num) = List.range' start limit ∧
    ∀ j b, bs[j]? = some b → es[j]? = some (elOf b) ∧ ∀ b', bs[j + 1]? = some b' → b'.parent = b.hash := by
  simp only [validate, Option.ite_none_left_eq_some] at h
  obtain ⟨h1, h2, h3, h⟩ := h
  obtain ⟨g1, g2, _, g4⟩ := validate_go_some h
  have hlen : (es.take limit).length = limit := by rw [List.length_take]; omega
  rw [hlen] at g2
  refine ⟨by simp at h3; omega, by omega, fun e he => ?_, g2, fun j b hb => ⟨?_, fun b' => g4 j b b' hb⟩⟩
  · cases e with
    | val a => exact ⟨a, rfl⟩
    | error => exact absurd (List.any_eq_true.2 ⟨_, he, rfl⟩) h2
    | null => exact absurd (List.any_eq_true.2 ⟨_, he, rfl⟩) h2
  · have : (es.take limit)[j]? = some (elOf b) := by rw [g1]; simp [hb]
    rw [List.getElem?_take, if_pos (num_of_map_range' g2 hb).2] at this
    exact this

/-- `G` is abstract so that the receipts, per-transaction-logs and traces folds all instantiate it
    (logs: `bn := fun _ => 0`, `n0 := 0`: the `filter` already fixed the number) -/
theorem setHash_foldl {α : Type} (bn : α → Nat) (bh : α → String) (post : α → Block → Block) (n0 : Nat)
    (hpost : ∀ i x, keeps x (post i x))
    {G : Option Block → α → Option Block} {l : List α} {b b' : Block} {h0 : String}
    (h : l.foldl G (setHash b h0) = some b')
    (hn : ∀ i, G none i = none)
    (hs : ∀ x i, G (some x) i = if bn i != n0 then none else (setHash x (bh i)).map (post i)) :
    keeps b b' ∧ ∀ i ∈ l, bn i = n0 ∧ (bh i ≠ "" → b'.hash = bh i) := by
  cases hs0 : setHash b h0 with
  | none => rw [hs0, foldl_none hn] at h; cases h
  | some b1 =>
    rw [hs0] at h
    obtain ⟨hk, hw⟩ := foldl_opt hn keeps.refl (fun _ _ _ => keeps.trans)
      (W := fun i x => bn i = n0 ∧ (bh i ≠ "" → x.hash = bh i))
      (fun i x y hxy hw => ⟨hw.1, fun hne => hxy.hash_eq hne (hw.2 hne)⟩) l
      (by
        intro x i x' _ hG
        rw [hs] at hG
        split at hG
        · cases hG
        rename_i hb
        obtain ⟨y, hsx, rfl⟩ := Option.map_eq_some_iff.1 hG
        exact ⟨(setHash_keep hsx).trans (hpost i y), by simpa using hb,
          fun hne => (hpost i y).hash_eq hne (setHash_hash hsx hne)⟩)
      b1 b' h
    exact ⟨(setHash_keep hs0).trans hk, hw⟩

theorem applyReceipts_go_spec {start : Nat} {es : List (El (List Rcpt))} {i : Nat} {bs : List Block}
    {bs' : List Block} (h : applyReceipts.go start es i bs = some bs') :
    Rel keeps bs bs' ∧ (∀ e ∈ es, ∃ rs, e = .val rs) ∧
      ∀ (j : Nat) (rs : List Rcpt) (r : Rcpt), es[j]? = some (.val rs) → r ∈ rs →
        r.bnum = start + (i + j) ∧ (r.bhash ≠ "" → Has r.bnum r.bhash bs') := by
  fun_induction applyReceipts.go start es i bs with
  | case1 => cases h; simp [Rel.keeps_refl]
  | case2 | case3 | case5 | case6 => cases h
  | case4 rest i bs ih =>
    obtain ⟨h1, h2, h3⟩ := ih h
    refine ⟨h1, List.forall_mem_cons.2 ⟨⟨_, rfl⟩, h2⟩, fun j rs r hj hr => ?_⟩
    cases j with
    | zero => cases hj; cases hr
    | succ j => exact Nat.add_right_comm i 1 j ▸ h3 j rs r hj hr
  | case7 r0 rs0 rest i bs hnum bs1 hu ih =>
    obtain ⟨hrel, hq⟩ := updBlock_attach (bn := Rcpt.bnum) (bh := Rcpt.bhash) (l := r0 :: rs0)
      (fun b b' hf => setHash_foldl Rcpt.bnum Rcpt.bhash
        (fun r b => withTx b r.tx fun t => { t with logs := r.logs, fromRcpt := true }) r0.bnum
        (fun _ _ => keeps_withTx ..) hf (fun _ => rfl) (fun _ _ => rfl)) hu
    obtain ⟨h1, h2, h3⟩ := ih h
    refine ⟨hrel.keeps_trans h1, List.forall_mem_cons.2 ⟨⟨_, rfl⟩, h2⟩, fun j rs r hj hr => ?_⟩
    cases j with
    | zero =>
      cases hj
      exact ⟨(hq r hr).1.trans (by simpa using hnum), fun hne => ((hq r hr).2 hne).mono hne h1⟩
    | succ j => exact Nat.add_right_comm i 1 j ▸ h3 j rs r hj hr

theorem applyReceipts_spec {start limit : Nat} {es : List (El (List Rcpt))} {bs bs' : List Block}
    (h : applyReceipts start limit es bs = some bs') :
    limit ≤ es.length ∧ Rel keeps bs bs' ∧ (∀ e ∈ es, ∃ rs, e = .val rs) ∧
      ∀ (j : Nat) (rs : List Rcpt) (r : Rcpt), es[j]? = some (.val rs) → r ∈ rs →
        r.bnum = start + j ∧ (r.bhash ≠ "" → Has r.bnum r.bhash bs') := by
  simp only [applyReceipts, Option.ite_none_left_eq_some] at h
  obtain ⟨g1, g2, g3⟩ := applyReceipts_go_spec h.2.2
  exact ⟨by omega, g1, g2, fun j rs r hj hr => by simpa using g3 j rs r hj hr⟩

theorem applyTraces_spec {want : Nat} {e : El (List Item)} {bs bs' : List Block}
    (h : applyTraces want e bs = some bs') :
    Rel keeps bs bs' ∧ ∃ items, e = .val items ∧
      ∀ i ∈ items, i.bnum = want ∧ (i.bhash ≠ "" → Has i.bnum i.bhash bs') := by
  match e, h with
  | .val [], h => cases h; exact ⟨Rel.keeps_refl _, [], rfl, by simp⟩
  | .val (i0 :: is), h =>
    rw [applyTraces, Option.ite_none_left_eq_some] at h
    obtain ⟨hnum, h⟩ := h
    simp at hnum
    obtain ⟨hrel, hq⟩ := updBlock_attach (bn := Item.bnum) (bh := Item.bhash) (l := i0 :: is) (by
      intro b b' hf
      split at hf
      · cases hf
      rename_i x hx
      cases hf
      obtain ⟨k, hw⟩ := setHash_foldl Item.bnum Item.bhash (fun _ b => b) i0.bnum (fun _ => keeps.refl) hx
        (fun _ => rfl) (fun x i => by simp only []; split <;> simp)
      have p := keeps_foldl_withTx (fun tx : Nat => tx)
        (fun tx t => { t with traces := ((i0 :: is).filter (·.tx == tx)).length })
        ((i0 :: is).map (·.tx)).eraseDups x
      exact ⟨k.trans p, fun i hi => ⟨(hw i hi).1, fun hne => p.hash_eq hne ((hw i hi).2 hne)⟩⟩) h
    exact ⟨hrel, _, rfl, fun i hi => ⟨(hq i hi).1.trans hnum, (hq i hi).2⟩⟩

theorem applyLogs_spec {start limit : Nat} {h : El Hdr} {l : El (List Item)} {n : Nat} {bs bs' : List Block}
    (hok : applyLogs start limit h l n bs = some bs') :
    n = 2 ∧ ∃ hd items, h = .val hd ∧ l = .val items ∧ Rel keeps bs bs' ∧
      (hd.hash ≠ "" → (∃ b ∈ bs, b.num = start + limit - 1) → Has (start + limit - 1) hd.hash bs') ∧
      ∀ i ∈ items, start ≤ i.bnum ∧ i.bnum < start + limit ∧ (i.bhash ≠ "" → Has i.bnum i.bhash bs') := by
  rw [applyLogs.eq_def, Option.ite_none_left_eq_some] at hok
  match h, l, hok with
  | .val hd, .val items, ⟨hn, hok⟩ =>
    simp only [] at hok
    split at hok
    · cases hok
    rename_i bs1 hbs1
    rw [Option.ite_none_left_eq_some] at hok
    obtain ⟨hr, hok⟩ := hok
    -- the accompanying header, set on the last block if that block is held
    have h1 : Rel keeps bs bs1 ∧
        (hd.hash ≠ "" → (∃ b ∈ bs, b.num = start + limit - 1) → Has (start + limit - 1) hd.hash bs1) := by
      split at hbs1
      · obtain ⟨hrel, hq⟩ := updBlock_attach (bn := fun _ : Hdr => start + limit - 1) (bh := Hdr.hash) (l := [hd])
          (fun b b' hf => ⟨setHash_keep hf, fun i hi => by
            cases List.mem_singleton.1 hi
            exact ⟨rfl, setHash_hash hf⟩⟩) hbs1
        exact ⟨hrel, fun hne _ => (hq hd List.mem_cons_self).2 hne⟩
      · rename_i hany
        cases hbs1
        exact ⟨Rel.keeps_refl _, fun _ ⟨b, hb, hbn⟩ => absurd (List.any_eq_true.2 ⟨b, hb, by simp [hbn]⟩) hany⟩
    -- the fold over the (block, transaction) keys
    obtain ⟨hrel, hw⟩ := foldl_opt (fun _ => rfl) Rel.keeps_refl (fun _ _ _ => Rel.keeps_trans)
      (W := fun (k : Nat × Nat) s => ∀ i ∈ items, (i.bnum, i.tx) = k → i.bhash ≠ "" → Has i.bnum i.bhash s)
      (fun k a b hab hw i hi hk hne => (hw i hi hk hne).mono hne hab) (groupKeys items)
      (by
        intro s k s' _ hF
        simp only [] at hF
        split at hF
        · rename_i hgrp
          cases hF
          refine ⟨Rel.keeps_refl _, fun i him hk => ?_⟩
          have : i ∈ List.filter (fun i => i.bnum == k.fst && i.tx == k.snd) items :=
            List.mem_filter.2 ⟨him, by simp [← hk]⟩
          rw [hgrp] at this
          cases this
        · -- the logs of one transaction: their hashes go through `setHash`, then `withTx`
          obtain ⟨hrel, hq⟩ := updBlock_attach (bn := Item.bnum) (bh := Item.bhash)
            (l := items.filter fun i => i.bnum == k.fst && i.tx == k.snd) (by
              intro x x' hf
              split at hf
              · cases hf
              rename_i y hy
              cases hf
              obtain ⟨k1, hw⟩ := setHash_foldl (fun _ : Item => 0) Item.bhash (fun _ b => b) 0
                (fun _ => keeps.refl) hy (fun _ => rfl) (fun x i => by simp)
              refine ⟨k1.trans (keeps_withTx ..), fun i hi => ⟨?_, fun hne => ?_⟩⟩
              · have := (List.mem_filter.1 hi).2
                simp at this
                exact this.1
              · rw [withTx_hash]; exact (hw i hi).2 hne) hF
          exact ⟨hrel, fun i him hk hne => (hq i (List.mem_filter.2 ⟨him, by simp [← hk]⟩)).2 hne⟩)
      bs1 bs' hok
    refine ⟨by simpa using hn, hd, items, rfl, rfl, Rel.keeps_trans h1.1 hrel, fun hne hex => (h1.2 hne hex).mono hne hrel,
      fun i him => ?_⟩
    have : ¬ ((decide (i.bnum < start) || decide (i.bnum ≥ start + limit)) = true) :=
      fun hx => hr (List.any_eq_true.2 ⟨i, him, hx⟩)
    simp at this
    refine ⟨by omega, by omega, hw (i.bnum, i.tx) ?_ i him rfl⟩
    simp [groupKeys, List.mem_eraseDups]
    exact ⟨i, him, rfl, rfl⟩

/-- `k` = replies still to come, so reply `j` of `xs` is for block `start + (limit - (k - j))` -/
theorem get_go_spec {start limit k : Nat} {xs : List Exch} {bs bs' : List Block}
    (h : get.go start limit k xs bs = some bs') :
    Rel keeps bs bs' ∧ ∀ j, j < k → ∃ items, xs[j]? = some (.traces (.val items)) ∧
      ∀ i ∈ items, i.bnum = start + (limit - (k - j)) ∧ (i.bhash ≠ "" → Has i.bnum i.bhash bs') := by
  fun_induction get.go start limit k xs bs with
  | case1 => cases h; exact ⟨Rel.keeps_refl _, fun j hj => by omega⟩
  | case2 | case4 => cases h
  | case3 k bs e rest bs1 htr ih =>
    obtain ⟨r1, items, rfl, hit⟩ := applyTraces_spec htr
    obtain ⟨r2, hrest⟩ := ih h
    refine ⟨Rel.keeps_trans r1 r2, fun j hj => ?_⟩
    cases j with
    | zero => exact ⟨items, rfl, fun i hi => ⟨(hit i hi).1, fun hne => ((hit i hi).2 hne).mono hne r2⟩⟩
    | succ j =>
      obtain ⟨its, h1, h2⟩ := hrest j (by omega)
      rw [Nat.succ_sub_succ]
      exact ⟨its, by simpa using h1, h2⟩

/-- `bs0`, `bs1`: the blocks after the first / second stage; `xs1`, `xs2`: the exchanges left -/
theorem get_spec {p : Plan} {start limit : Nat} {xs : List Exch} {bs : List Block}
    (h : get p start limit xs = some bs) :
    ∃ bs0 xs1 bs1 xs2,
      (bs0.map (·.num) = List.range' start limit ∧
        if p.blocks || p.headers then ∃ es, xs = .headers es :: xs1 ∧ validate start limit es = some bs0
        else xs1 = xs ∧ bs0 = (List.range limit).map fun i => { num := start + i }) ∧
      (Rel keeps bs0 bs1 ∧
        if p.receipts then ∃ es, xs1 = .receipts es :: xs2 ∧ applyReceipts start limit es bs0 = some bs1
        else if p.logs then ∃ hd l n, xs1 = .logs hd l n :: xs2 ∧ applyLogs start limit hd l n bs0 = some bs1
        else xs2 = xs1 ∧ bs1 = bs0) ∧
      Rel keeps bs1 bs ∧
        if p.traces then get.go start limit limit xs2 bs1 = some bs else bs = bs1 := by
  unfold get at h
  simp only [] at h
  split at h
  · cases h
  rename_i bs0 xs1 h1
  split at h
  · cases h
  rename_i bs1 xs2 h2
  refine ⟨bs0, xs1, bs1, xs2, ?_, ?_, ?_⟩
  · split at h1
    · rename_i hc
      rw [if_pos hc]
      split at h1
      · obtain ⟨b, hv, he⟩ := Option.map_eq_some_iff.1 h1
        cases he
        exact ⟨(validate_spec hv).2.2.2.1, _, rfl, hv⟩
      · cases h1
    · rename_i hc
      rw [if_neg hc]
      cases h1
      exact ⟨by simp [List.range'_eq_map_range, Function.comp_def], rfl, rfl⟩
  · split at h2
    · rename_i hr
      rw [if_pos hr]
      split at h2
      · obtain ⟨b, hv, he⟩ := Option.map_eq_some_iff.1 h2
        cases he
        exact ⟨(applyReceipts_spec hv).2.1, _, rfl, hv⟩
      · cases h2
    rename_i hr
    rw [if_neg hr]
    split at h2
    · rename_i hl
      rw [if_pos hl]
      split at h2
      · obtain ⟨b, hv, he⟩ := Option.map_eq_some_iff.1 h2
        cases he
        obtain ⟨_, _, _, _, _, hrel, _⟩ := applyLogs_spec hv
        exact ⟨hrel, _, _, _, rfl, hv⟩
      · cases h2
    · rename_i hl
      rw [if_neg hl]
      cases h2
      exact ⟨Rel.keeps_refl _, rfl, rfl⟩
  · split at h
    · rename_i ht
      rw [if_pos ht]
      exact ⟨(get_go_spec h).1, h⟩
    · rename_i ht
      rw [if_neg ht]
      cases h
      exact ⟨Rel.keeps_refl _, rfl⟩

end Shovel.Rpc
