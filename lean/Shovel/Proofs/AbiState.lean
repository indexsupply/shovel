import Shovel.Proofs.AbiBase
/-
  C09: the decoder state (`St`) — writing located cells (`writeCells`), creating rows (`pushRows`),
  the invariant `WF`, and `Loc` / `LocRows`, which tie located cells to the cells of the row rule.
  Independent of `AbiLayout`.
-/
namespace Shovel.Abi

/-- located cells: column, (lo, hi) -/
abbrev LCells := List (Nat × (Nat × Nat))

def setCells (lc : LCells) (row : Row) : Row := lc.foldl (fun row c => row.set c.1 (some c.2)) row

@[simp] theorem setCells_length (lc : LCells) (row : Row) : (setCells lc row).length = row.length :=
  List.foldlRecOn (motive := fun r : Row => r.length = row.length) lc _ rfl
    fun _ h _ _ => List.length_set.trans h

/-- total version of `St.setCol` -/
def St.setCol' (s : St) (r : RowRef) (c : Nat × (Nat × Nat)) : St :=
  match r with
  | .single => { s with single := s.single.set c.1 (some c.2) }
  | .coll i => { s with coll := s.coll.set i ((s.coll.getD i []).set c.1 (some c.2)) }

def writeCells (r : RowRef) (lc : LCells) (s : St) : St := lc.foldl (fun s c => s.setCol' r c) s

theorem writeCells_nil (r : RowRef) (s : St) : writeCells r [] s = s := rfl
theorem writeCells_cons (r : RowRef) (c) (lc : LCells) (s : St) :
    writeCells r (c :: lc) s = writeCells r lc (s.setCol' r c) := rfl
theorem writeCells_append (r : RowRef) (l1 l2 : LCells) (s : St) :
    writeCells r (l1 ++ l2) s = writeCells r l2 (writeCells r l1 s) := by
  simp [writeCells, List.foldl_append]

def RowOK (s : St) (r : RowRef) (w : Nat) : Prop :=
  match r with
  | .single => s.single.length = w
  | .coll i => ∃ row, s.coll[i]? = some row ∧ row.length = w

theorem setCol_eq {s : St} {r : RowRef} {w p : Nat} (v : Nat × Nat) (h : RowOK s r w) (hp : p < w) :
    s.setCol r p v = .ok (s.setCol' r (p, v)) := by
  cases r with
  | single =>
    simp only [RowOK] at h
    simp only [St.setCol, St.setCol']
    rw [if_pos (by omega)]
  | coll i =>
    obtain ⟨row, h1, h2⟩ := h
    simp only [St.setCol, St.setCol', h1]
    rw [if_pos (by omega)]
    simp [List.getD, h1]

theorem RowOK_setCol' {s : St} {r : RowRef} {w : Nat} (c) (h : RowOK s r w) :
    RowOK (s.setCol' r c) r w := by
  cases r with
  | single => simpa [RowOK, St.setCol'] using h
  | coll i =>
    obtain ⟨row, h1, h2⟩ := h
    obtain ⟨hi, h1'⟩ := List.getElem?_eq_some_iff.mp h1
    refine ⟨row.set c.1 (some c.2), ?_, by simpa using h2⟩
    simp [St.setCol', List.getD, hi, h1']

theorem RowOK_writeCells {r : RowRef} {w : Nat} (lc : LCells) {s : St} (h : RowOK s r w) :
    RowOK (writeCells r lc s) r w :=
  List.foldlRecOn (motive := fun s => RowOK s r w) lc _ h fun _ h c _ => RowOK_setCol' c h

theorem writeCells_single (lc : LCells) (s : St) :
    writeCells .single lc s = { s with single := setCells lc s.single } := by
  induction lc generalizing s with
  | nil => rfl
  | cons c lc ih => rw [writeCells_cons, ih]; rfl

theorem writeCells_coll (i : Nat) (lc : LCells) (s : St) (row : Row) (h : s.coll[i]? = some row) :
    writeCells (.coll i) lc s = { s with coll := s.coll.set i (setCells lc row) } := by
  induction lc generalizing s row with
  | nil =>
    obtain ⟨_, rfl⟩ := List.getElem?_eq_some_iff.mp h
    show s = { s with coll := s.coll.set i s.coll[i] }
    rw [List.set_getElem_self]
  | cons c lc ih =>
    obtain ⟨hi, _⟩ := List.getElem?_eq_some_iff.mp h
    rw [writeCells_cons]
    have hstep : s.setCol' (.coll i) c = { s with coll := s.coll.set i (row.set c.1 (some c.2)) } := by
      simp [St.setCol', List.getD, h]
    rw [hstep, ih _ (row.set c.1 (some c.2)) (by simp [hi])]
    simp [setCells]

/-- the state invariant of the C09 chain, `w` the number of columns; `hs` of `scan_encode` is its
    unfolding.  C10 has its own (`St.WF`, with the cells' ranges); no lemma relates the two. -/
def WF (s : St) (w : Nat) : Prop :=
  s.ncols = w ∧ s.single.length = w ∧ (∀ row ∈ s.coll, row.length = w) ∧ s.n ≤ s.coll.length

theorem getRow_spec {s : St} {w : Nat} (h : WF s w) :
    WF s.getRow.1 w ∧ s.getRow.1.n = s.n + 1 ∧ s.getRow.1.single = s.single ∧
    s.getRow.1.coll[s.n]? = some (List.replicate w none) ∧
    s.getRow.1.coll.take s.n = s.coll.take s.n ∧ s.getRow.2 = .coll s.n := by
  obtain ⟨h1, h2, h3, h4⟩ := h
  subst h1
  obtain ⟨c, hc, hlt, hrows, hg⟩ := getRow_eq h4 h3
  rw [hg]
  have htake : c.take s.n = s.coll.take s.n := by
    rcases hc with rfl | rfl
    · rfl
    · exact List.take_append_of_le_length h4
  refine ⟨⟨rfl, h2, ?_, ?_⟩, rfl, rfl, List.getElem?_set_self hlt, ?_, rfl⟩
  · intro r hr
    rcases List.mem_or_eq_of_mem_set hr with hr | hr
    · exact hrows r hr
    · subst hr; simp [emptyRow]
  · show s.n + 1 ≤ (c.set s.n _).length
    rw [List.length_set]; exact hlt
  · show (c.set s.n _).take s.n = _
    rw [List.take_set, List.set_eq_of_length_le (by rw [List.length_take]; omega), htake]

theorem finish_WF {s1 : St} {w : Nat} (hwf : WF (oneRow s1) w) : WF (finish s1) w := by
  unfold finish
  obtain ⟨a, b, c, d⟩ := hwf
  refine ⟨a, b, ?_, ?_⟩
  · intro row hrow
    rcases List.mem_append.mp hrow with h | h
    · obtain ⟨r0, hr0, rfl⟩ := List.mem_map.mp h
      have := c r0 (List.mem_of_mem_take hr0)
      simp [bcast, this, b]
    · exact c row (List.mem_of_mem_drop h)
  · simp only [List.length_append, List.length_map, List.length_take, List.length_drop]
    omega

/-- what one element of a selected array does: `GetRow`, then its cells written into the new row -/
def pushRow (s : St) (lc : LCells) : St := writeCells (.coll s.n) lc s.getRow.1
def pushRows (lrows : List LCells) (s : St) : St := lrows.foldl pushRow s

theorem pushRows_nil (s : St) : pushRows [] s = s := rfl
theorem pushRows_cons (lc : LCells) (l : List LCells) (s : St) :
    pushRows (lc :: l) s = pushRows l (pushRow s lc) := rfl
theorem pushRows_append (l1 l2 : List LCells) (s : St) :
    pushRows (l1 ++ l2) s = pushRows l2 (pushRows l1 s) := by
  simp [pushRows, List.foldl_append]

theorem pushRow_spec {s : St} {w : Nat} (h : WF s w) (lc : LCells) :
    WF (pushRow s lc) w ∧ (pushRow s lc).n = s.n + 1 ∧ (pushRow s lc).single = s.single ∧
    (pushRow s lc).coll.take (s.n + 1) = s.coll.take s.n ++ [setCells lc (List.replicate w none)] := by
  obtain ⟨g1, g2, g3, g4, g5, _⟩ := getRow_spec h
  have hw := writeCells_coll s.n lc s.getRow.1 _ g4
  have hlt : s.n < s.getRow.1.coll.length := by
    rcases List.getElem?_eq_some_iff.mp g4 with ⟨hi, _⟩; exact hi
  unfold pushRow
  rw [hw]
  refine ⟨⟨g1.1, g1.2.1, ?_, ?_⟩, g2, g3, ?_⟩
  · intro r hr
    rcases List.mem_or_eq_of_mem_set hr with hr | hr
    · exact g1.2.2.1 r hr
    · subst hr; simp
  · show s.getRow.1.n ≤ (s.getRow.1.coll.set s.n _).length
    rw [List.length_set, g2]; omega
  · show (s.getRow.1.coll.set s.n _).take (s.n + 1) = _
    rw [List.take_add_one, List.take_set,
      List.set_eq_of_length_le (by rw [List.length_take]; omega), g5,
      List.getElem?_set_self hlt]
    rfl

theorem pushRows_spec (lrows : List LCells) {s : St} {w : Nat} (h : WF s w) :
    WF (pushRows lrows s) w ∧ (pushRows lrows s).n = s.n + lrows.length ∧
    (pushRows lrows s).single = s.single ∧
    (pushRows lrows s).coll.take (s.n + lrows.length) =
      s.coll.take s.n ++ lrows.map (fun lc => setCells lc (List.replicate w none)) := by
  induction lrows generalizing s with
  | nil => simp [pushRows_nil, h]
  | cons lc l ih =>
    obtain ⟨p1, p2, p3, p4⟩ := pushRow_spec h lc
    obtain ⟨q1, q2, q3, q4⟩ := ih p1
    rw [pushRows_cons]
    refine ⟨q1, by rw [q2, p2]; simp; omega, by rw [q3, p3], ?_⟩
    have : s.n + (lc :: l).length = (pushRow s lc).n + l.length := by rw [p2]; simp; omega
    rw [this, q4, p2, p4]; simp

/-- A write to the singleton commutes with creating rows: it commutes with `getRow` and with a write
    into a collection row by `rfl`, and `pushRow` and `pushRows` are folds of those. -/
theorem pushRows_setCol'_single (c : Nat × (Nat × Nat)) (l : List LCells) (s : St) :
    pushRows l (s.setCol' .single c) = (pushRows l s).setCol' .single c :=
  List.foldl_hom (St.setCol' · .single c) fun s lc' =>
    List.foldl_hom (St.setCol' · .single c) (init := s.getRow.1) (l := lc')
      (g₁ := fun s' c' => s'.setCol' (.coll s.n) c') (g₂ := fun s' c' => s'.setCol' (.coll s.n) c')
      fun _ _ => rfl

theorem pushRows_writeCells_single (l : List LCells) (lc : LCells) (s : St) :
    pushRows l (writeCells .single lc s) = writeCells .single lc (pushRows l s) :=
  (List.foldl_hom (pushRows l) fun s c => (pushRows_setCol'_single c l s).symm).symm

/-- two `scanR` post-states in sequence are one -/
theorem pushRows_writeCells_seq (l1 l2 : List LCells) (c1 c2 : LCells) (s : St) :
    pushRows l2 (writeCells .single c2 (pushRows l1 (writeCells .single c1 s))) =
      pushRows (l1 ++ l2) (writeCells .single (c1 ++ c2) s) := by
  rw [pushRows_append, writeCells_append, pushRows_writeCells_single l1 c2]

theorem WF_writeCells_single {s : St} {w : Nat} (h : WF s w) (lc : LCells) :
    WF (writeCells .single lc s) w := by
  rw [writeCells_single]
  exact ⟨h.1, by simp [h.2.1], h.2.2.1, h.2.2.2⟩

def bytesAt (b : Buf) (c : Nat × Nat) : List Nat := (b.data.take c.2).drop c.1
def locF (b : Buf) (c : Nat × (Nat × Nat)) : Nat × List Nat := (c.1, bytesAt b c.2)

/-- `lc`, read back from the buffer, are the non-empty cells of `cs` in order; empty ones are left
    out as `cellsToRow` ignores them and the broadcast (`bcastCell`: `hi - lo > 0`) takes them for
    unset -/
def Loc (b : Buf) (lc : LCells) (cs : Cells) : Prop :=
  lc.map (locF b) = cs.filter (fun c => !c.2.isEmpty)

theorem Loc.nil (b : Buf) : Loc b [] [] := rfl
theorem Loc.append {b : Buf} {l1 l2 : LCells} {c1 c2 : Cells} (h1 : Loc b l1 c1) (h2 : Loc b l2 c2) :
    Loc b (l1 ++ l2) (c1 ++ c2) := by
  unfold Loc at *
  rw [List.map_append, List.filter_append, h1, h2]
theorem Loc.nil_inv {b : Buf} {lc : LCells} (h : Loc b lc []) : lc = [] := by
  unfold Loc at h
  simpa using h

theorem Loc.single {b : Buf} {p lo hi : Nat} {X : List Nat} (h : (b.data.take hi).drop lo = X)
    (hX : X ≠ []) : Loc b [(p, (lo, hi))] [(p, X)] := by
  unfold Loc
  simp only [List.map_cons, List.map_nil, locF, bytesAt, h]
  rw [List.filter_cons_of_pos (by simpa using hX)]; rfl

def selCell (sel : Option Nat) (lo hi : Nat) : LCells := sel.toList.map fun p => (p, (lo, hi))

theorem Loc.sel {b : Buf} (sel : Option Nat) {lo hi : Nat} {X : List Nat}
    (h : (b.data.take hi).drop lo = X) (hX : X ≠ []) :
    Loc b (selCell sel lo hi) (sel.toList.map fun p => (p, X)) := by
  cases sel with
  | none => exact Loc.nil b
  | some p => exact Loc.single h hX

theorem Loc.find {b : Buf} {lc : LCells} {cs : Cells} (h : Loc b lc cs) (j : Nat) :
    cs.find? (fun c => c.1 == j && !c.2.isEmpty) = (lc.find? (fun c => c.1 == j)).map (locF b) := by
  have e1 : cs.find? (fun c => c.1 == j && !c.2.isEmpty) =
      (cs.filter (fun c => !c.2.isEmpty)).find? (fun c => c.1 == j) := by
    rw [List.find?_filter]
    congr 1
    funext a
    cases (a.1 == j) <;> cases a.2.isEmpty <;> rfl
  rw [e1, ← h, List.find?_map]
  rfl

theorem Loc.pos {b : Buf} {lc : LCells} {cs : Cells} (h : Loc b lc cs) {c} (hc : c ∈ lc) :
    c.2.2 - c.2.1 > 0 := by
  have hm : locF b c ∈ lc.map (locF b) := List.mem_map_of_mem hc
  rw [h, List.mem_filter] at hm
  have hne : (bytesAt b c.2).length ≠ 0 := by
    intro h0
    have := List.eq_nil_of_length_eq_zero h0
    have h2 := hm.2
    simp only [locF, this] at h2
    simp at h2
  unfold bytesAt at hne
  rw [List.length_drop, List.length_take] at hne
  exact Nat.lt_of_lt_of_le (Nat.pos_of_ne_zero hne) (Nat.sub_le_sub_right (Nat.min_le_left ..) _)

theorem Loc.keys {b : Buf} {lc : LCells} {cs : Cells} (h : Loc b lc cs) :
    (lc.map (·.1)).Sublist (cs.map (·.1)) := by
  have : lc.map (·.1) = (lc.map (locF b)).map (·.1) := by rw [List.map_map]; rfl
  rw [this, h]
  exact List.Sublist.map _ List.filter_sublist

def LocRows (b : Buf) : List LCells → List Cells → Prop
  | [], [] => True
  | l :: ls, c :: cs => Loc b l c ∧ LocRows b ls cs
  | _, _ => False

theorem LocRows.nil (b : Buf) : LocRows b [] [] := trivial
theorem LocRows.append {b : Buf} {l2 : List LCells} {c2 : List Cells} (h2 : LocRows b l2 c2) :
    (l1 : List LCells) → (c1 : List Cells) → LocRows b l1 c1 → LocRows b (l1 ++ l2) (c1 ++ c2) := by
  intro l1 c1 h1
  fun_induction LocRows b l1 c1 with
  | case1 => exact h2
  | case2 _ _ _ _ ih => exact ⟨h1.1, ih h1.2⟩
  | case3 => exact h1.elim

theorem LocRows.nil_left {b : Buf} : {rows : List Cells} → LocRows b [] rows → rows = []
  | [], _ => rfl
  | _ :: _, h => False.elim h

theorem LocRows.cons_left {b : Buf} {l : LCells} {lr : List LCells} :
    {rows : List Cells} → LocRows b (l :: lr) rows → rows ≠ []
  | [], h => False.elim h
  | _ :: _, _ => by simp

end Shovel.Abi
