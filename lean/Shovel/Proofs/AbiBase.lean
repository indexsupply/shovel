import Shovel.Proofs.AbiStep
import Shovel.Spec.Abi
/-
  C09: words (`word32` read back by `Buf.word`), positions in the buffer (`At`), slicing and
  reading a word at a natural-number position (`readInt_enc`).
-/
namespace Shovel.Abi

@[simp] theorem word32_length (n : Nat) : (word32 n).length = 32 := by simp [word32]

theorem foldl_digits (k n : Nat) :
    ((List.range k).map fun i => n / 256 ^ (k - 1 - i) % 256).foldl (fun a x => a * 256 + x) 0 =
      n % 256 ^ k := by
  induction k generalizing n with
  | zero => simp [Nat.mod_one]
  | succ k ih =>
    -- all digits but the last are the digits of `n / 256`
    have hd : ∀ i ∈ List.range k, n / 256 ^ (k + 1 - 1 - i) % 256 = n / 256 / 256 ^ (k - 1 - i) % 256 := by
      intro i hi
      have hi' : i < k := List.mem_range.mp hi
      rw [show k + 1 - 1 - i = (k - 1 - i) + 1 by omega, Nat.pow_succ, Nat.mul_comm,
        Nat.div_div_eq_div_mul]
    rw [List.range_succ, List.map_append, List.foldl_append, List.map_congr_left hd, ih]
    simp only [List.map_cons, List.map_nil, List.foldl_cons, List.foldl_nil, Nat.add_sub_cancel,
      Nat.sub_self, Nat.pow_zero, Nat.div_one]
    rw [Nat.pow_succ, Nat.mul_comm (256 ^ k) 256, Nat.mod_mul]
    omega

theorem foldl_mod (M : Nat) (l : List Nat) (a : Nat) :
    l.foldl (fun n x => (n * 256 + x) % M) (a % M) = (l.foldl (fun n x => n * 256 + x) a) % M := by
  induction l generalizing a with
  | nil => rfl
  | cons x l ih =>
    simp only [List.foldl_cons]
    have : (a % M * 256 + x) % M = (a * 256 + x) % M := by
      rw [Nat.add_mod, Nat.mul_mod, Nat.mod_mod, ← Nat.mul_mod, ← Nat.add_mod]
    rw [this, ih]

theorem foldl_word32 (n : Nat) (h : n < 2 ^ 63) :
    (word32 n).foldl (fun a x => (a * 256 + x) % U64) 0 = n := by
  have h0 : (0 : Nat) = 0 % U64 := by simp
  rw [h0, foldl_mod, word32, foldl_digits 32]
  have : n % 256 ^ 32 = n := Nat.mod_eq_of_lt (by
    have : (2:Nat) ^ 63 < 256 ^ 32 := by decide
    omega)
  rw [this]
  exact Nat.mod_eq_of_lt (by unfold U64; omega)

theorem toI64_small (n : Nat) (h : n < 2 ^ 63) : toI64 n = (n : Int) := by
  unfold toI64
  have : n % U64 = n := Nat.mod_eq_of_lt (by unfold U64; omega)
  simp only [this]
  rw [if_pos h]

def At (b : Buf) (p : Nat) (X : List Nat) : Prop :=
  ∃ pre post, b.data = pre ++ X ++ post ∧ pre.length = p

theorem At.bound {b : Buf} {p : Nat} {X : List Nat} (h : At b p X) :
    p + X.length ≤ b.data.length := by
  obtain ⟨pre, post, hd, hp⟩ := h
  rw [hd]; simp; omega

theorem At.left {b : Buf} {p : Nat} {X Y : List Nat} (h : At b p (X ++ Y)) : At b p X := by
  obtain ⟨pre, post, hd, hp⟩ := h
  exact ⟨pre, Y ++ post, by rw [hd]; simp, hp⟩

theorem At.right {b : Buf} {p : Nat} {X Y : List Nat} (h : At b p (X ++ Y)) :
    At b (p + X.length) Y := by
  obtain ⟨pre, post, hd, hp⟩ := h
  exact ⟨pre ++ X, post, by rw [hd]; simp, by simp [hp]⟩

theorem At.right' {b : Buf} {p q : Nat} {X Y : List Nat} (h : At b p (X ++ Y))
    (hq : q = p + X.length) : At b q Y := hq ▸ h.right

theorem At.read {b : Buf} {p : Nat} {X : List Nat} (h : At b p X) :
    (b.data.take (p + X.length)).drop p = X := by
  obtain ⟨pre, post, hd, hp⟩ := h
  subst hp
  rw [hd, List.append_assoc, List.take_append, List.drop_append]
  simp

theorem At.read' {b : Buf} {p q : Nat} {X : List Nat} (h : At b p X) (hq : q = p + X.length) :
    (b.data.take q).drop p = X := hq ▸ h.read

theorem At.nil {b : Buf} {p : Nat} (h : p ≤ b.data.length) : At b p [] :=
  ⟨b.data.take p, b.data.drop p, by simp, by simp; omega⟩

/-- buffers we decode: `len ≤ cap`, and short enough that `int(uint64)` conversions are exact -/
def BufOK (b : Buf) : Prop := b.data.length ≤ b.cap ∧ b.data.length < 2 ^ 63

theorem word_at {b : Buf} {p n : Nat} {Y : List Nat} (h : At b p (word32 n ++ Y)) (hn : n < 2 ^ 63) :
    b.word p (p + 32) = n := by
  unfold Buf.word
  have := h.left.read
  rw [word32_length] at this
  rw [this, foldl_word32 n hn]

theorem len_eq (b : Buf) (off : Nat) : b.len (off : Int) = (b.data.length : Int) - off := rfl

theorem not_len_lt {b : Buf} {off p : Nat} (h : off + p ≤ b.data.length) : ¬ b.len off < p := by
  rw [len_eq]; omega

theorem slice_nat {b : Buf} (hb : BufOK b) (off a hi : Nat) (h1 : a ≤ hi)
    (h2 : off + hi ≤ b.data.length) :
    b.slice (off : Int) (a : Int) (hi : Int) = .ok (off + a, off + hi) := by
  rw [slice_eq hb.1 (by omega) (by omega) (by omega)]
  congr 2 <;> omega

theorem sliceFrom_nat {b : Buf} (off a : Nat) (h : off + a ≤ b.data.length) :
    b.sliceFrom (off : Int) (a : Int) = .ok ((off + a : Nat) : Int) := by
  rw [sliceFrom_eq (by omega) (by omega), Int.natCast_add]

theorem readInt_enc {b : Buf} (hb : BufOK b) {off pos n : Nat} {Y : List Nat}
    (hat : At b (off + pos) (word32 n ++ Y)) (hn : n < 2 ^ 63) :
    readInt b off pos = .ok (n : Int) := by
  have hbd := hat.bound
  simp only [List.length_append, word32_length] at hbd
  have h : b.slice (off : Int) (pos : Int) ((pos : Int) + 32) = .ok (off + pos, off + pos + 32) :=
    slice_nat hb off pos (pos + 32) (by omega) (by omega)
  have h0 : ¬ b.len off < (pos : Int) + 32 := not_len_lt (p := pos + 32) (by omega)
  rw [readInt, if_neg h0, h, Res.bind_ok, word_at hat hn, toI64_small n hn]

end Shovel.Abi
