import Shovel.Proofs.WorldIter
import Shovel.Proofs.WorldData
/-
  What the concrete examples hand to the kernel (`decide +kernel`).

  * Checkers for the specification-side predicates: `Chain.wfb`, `scriptOKb`, and `Decidable`
    instances for `Inv` and `KeysOK`.
  * An evaluator for steps.  `linked` and the parent test of `load` ask for `String.length` of the
    hashes, which the kernel computes by running the UTF-8 decoder (well-founded recursion): a
    quarter of a second per 64-character hash, three hashes per loaded batch.  Against a script whose
    blocks all carry 64-character hashes those tests are vacuous (`Script.Len64`, which every honest
    script of a well-formed chain satisfies: `ScriptOK.len64`), so `converge` equals `convergeNL`,
    the same loop over a loader without them (`converge_eq_NL`); the examples rewrite with that
    equation first and evaluate `convergeNL`.
-/
namespace Shovel.World

def linksB : List Blk → Bool
  | a :: b :: rest => b.parent == a.hash && linksB (b :: rest)
  | _ => true

theorem linksB_sound : ∀ (l : List Blk), linksB l = true →
    ∀ (i : Nat) (a b : Blk), l[i]? = some a → l[i + 1]? = some b → b.parent = a.hash
  | [], _, i, a, b, ha, _ => by simp at ha
  | [_], _, i, a, b, _, hb => by simp at hb
  | x :: y :: rest, h, i, a, b, ha, hb => by
    simp only [linksB, Bool.and_eq_true, beq_iff_eq] at h
    cases i with
    | zero => simp at ha hb; rw [← ha, ← hb]; exact h.1
    | succ j => exact linksB_sound (y :: rest) h.2 j a b ha hb

/-- `Chain.WF` but for the hash lengths, which `wfb_sound` takes as a hypothesis (`simp` proves them by
    `String.length_ofList`) -/
def Chain.wfb (c : Chain) : Bool :=
  !c.blks.isEmpty && (List.range c.blks.length == c.blks.map (·.num)) && linksB c.blks &&
    decide (c.blks.map (·.hash)).Nodup

theorem Chain.wfb_sound (c : Chain) (hlen : ∀ b ∈ c.blks, b.hash.length = 64 ∧ b.parent.length = 64)
    (h : c.wfb = true) : c.WF := by
  simp only [Chain.wfb, Bool.and_eq_true, beq_iff_eq, decide_eq_true_eq] at h
  obtain ⟨⟨⟨h0, hnum⟩, hlink⟩, hinj⟩ := h
  refine ⟨fun hn => by simp [hn] at h0, fun i b hb => ?_, fun i b hb => hlen b (List.mem_of_getElem? hb),
    linksB_sound _ hlink, fun i j a b ha hb heq => ?_⟩
  · have hi := (List.getElem?_eq_some_iff.mp hb).1
    have := congrArg (·[i]?) hnum
    simp only [List.getElem?_map, hb, Option.map_some, List.getElem?_range hi] at this
    simpa using this.symm
  · have hi := (List.getElem?_eq_some_iff.mp ha).1
    refine (List.getElem?_inj (by simpa using hi) hinj).mp ?_
    simp only [List.getElem?_map, ha, hb, Option.map_some, heq]

def scriptOKb (c : Chain) (sc : Script) : Bool :=
  (sc.latest.all fun a => match a with
    | none => true
    | some (n, h) => decide (n ≤ c.head) && h == c.hashAt n) &&
  (sc.hash.all fun p => match p.2 with
    | none => true
    | some h => decide (p.1 ≤ c.head) && h == c.hashAt p.1) &&
  (sc.gets.all fun g => match g.2 with
    | none => true
    | some bs => decide (1 ≤ g.1.2) && decide (g.1.1 + g.1.2 - 1 ≤ c.head) && bs == c.slice g.1.1 g.1.2)

theorem scriptOKb_sound (c : Chain) (sc : Script) (h : scriptOKb c sc = true) : ScriptOK c sc := by
  unfold scriptOKb at h
  simp only [Bool.and_eq_true, List.all_eq_true] at h
  obtain ⟨⟨h1, h2⟩, h3⟩ := h
  refine ⟨?_, ?_, ?_⟩
  · intro a ha
    have := h1 a ha
    rcases a with _ | ⟨n, hh⟩
    · exact .inl rfl
    · simp only [Bool.and_eq_true, decide_eq_true_eq, beq_iff_eq] at this
      exact .inr ⟨n, this.1, by rw [this.2]⟩
  · intro p hp
    have := h2 p hp
    obtain ⟨n, a⟩ := p
    cases a with
    | none => exact .inl rfl
    | some hh =>
      simp only [Bool.and_eq_true, decide_eq_true_eq, beq_iff_eq] at this
      exact .inr ⟨this.1, by rw [this.2]⟩
  · intro g hg
    have := h3 g hg
    obtain ⟨mn, a⟩ := g
    cases a with
    | none => exact .inl rfl
    | some bs =>
      simp only [Bool.and_eq_true, decide_eq_true_eq, beq_iff_eq] at this
      exact .inr ⟨this.1.1, this.1.2, by rw [this.2]⟩

instance (t : Task) (c : Chain) (s : Nat) (db : DB) : Decidable (Inv t c s db) := by
  unfold Inv; exact inferInstance

instance (t : Task) (c : Chain) (db : DB) : Decidable (KeysOK t c db) := by
  unfold KeysOK; exact inferInstance

def Script.Len64 (sc : Script) : Prop :=
  ∀ p bs, (p, some bs) ∈ sc.gets → ∀ b ∈ bs, b.hash.length = 64 ∧ b.parent.length = 64

theorem ScriptOK.len64 {c : Chain} {sc : Script} (hsc : ScriptOK c sc) (hc : c.WF) : sc.Len64 := by
  intro p bs hg b hb
  rcases hsc.gets _ hg with h | ⟨_, _, h⟩
  · cases h
  · obtain rfl : bs = c.slice p.1 p.2 := Option.some.inj h
    exact hc.len _ _ (mem_slice_num hc hb).2.2

theorem linked_eq_linksB : ∀ (l : List Blk), (∀ b ∈ l, b.hash.length = 64 ∧ b.parent.length = 64) →
    linked l = linksB l
  | [], _ => rfl
  | [_], _ => rfl
  | a :: b :: rest, h => by
    have ha := (h a (by simp)).1
    have hb := (h b (by simp)).2
    simp only [linked, linksB, ha, hb, bne_self_eq_false, Bool.false_or,
      linked_eq_linksB (b :: rest) fun x hx => h x (List.mem_cons_of_mem _ hx)]

/-- `loadRes` without the length tests -/
def loadResNL (lh : String) (bs : List Blk) (e se : Bool) : LoadRes :=
  if se then .scriptEnd
  else if e then .err
  else
    match sortBlks bs with
    | [] => .panic
    | first :: rest =>
      if !linksB (first :: rest) then .err
      else if first.parent != lh then .reorg
      else .blocks (first :: rest)

theorem loadRes_eq_NL {lh : String} {bs : List Blk} (e se : Bool)
    (h : ∀ b ∈ bs, b.hash.length = 64 ∧ b.parent.length = 64) : loadRes lh bs e se = loadResNL lh bs e se := by
  unfold loadRes loadResNL
  cases hs : sortBlks bs with
  | nil => rfl
  | cons first rest =>
    have h' : ∀ b ∈ first :: rest, b.hash.length = 64 ∧ b.parent.length = 64 := fun b hb =>
      h b ((mem_sortBlks b bs).mp (hs ▸ hb))
    simp only [linked_eq_linksB _ h', (h' first (List.mem_cons_self ..)).2, beq_self_eq_true, Bool.true_and]

def loadNL (t : Task) (s : St) (lh : String) (st lim : Nat) : LoadRes × St :=
  let g := load.go (parts t.batch t.conc st lim) s [] false false
  (loadResNL lh g.1 g.2.1 g.2.2.1, g.2.2.2)

theorem load_eq_NL (t : Task) {s : St} (h : s.script.Len64) (lh : String) (st lim : Nat) :
    load t s lh st lim = loadNL t s lh st lim := by
  rw [load_eq, loadRes_eq_NL]
  · rfl
  intro b hb
  rcases go_members _ s [] false false b hb with h0 | ⟨p, _, bs, hbs, hb⟩
  · cases h0
  · exact h p bs hbs b hb

def loopNL (t : Task) (fault : Option Pos) : Nat → St → Result
  | 0, s => { outcome := .reorgLimit, db := s.db }
  | fuel + 1, s =>
    planK t fault (fun ln lh d s => afterLoad t fault (loopNL t fault fuel) ln (loadNL t s lh (ln + 1) d)) s

def convergeNL (t : Task) (db : DB) (script : Script) (fault : Option Pos) : Result :=
  if hit fault .begin1 then { outcome := .err, db := db }
  else loopNL t fault 1001 { db := db, view := db, script := script }

theorem loop_eq_NL (t : Task) (f : Option Pos) : ∀ fuel s, s.script.Len64 →
    converge.loop t f fuel s = loopNL t f fuel s
  | 0, _, _ => rfl
  | fuel + 1, s, h => by
    rw [loop_succ, iterK, loopNL]
    rcases planK_spec t f s with ⟨r, _, hr⟩ | ⟨ln, lh, d, s1, hg, hK⟩
    · rw [hr, hr]
    rw [hK f (.inl rfl), hK f (.inl rfl)]
    have h1 : s1.script.Len64 := fun p bs hb => h p bs (hg.same.script.2.2 _ hb)
    have hs2 := load_same t s1 lh (ln + 1) d
    rw [← load_eq_NL t h1]
    cases hl : load t s1 lh (ln + 1) d with
    | mk lr s2 =>
    rw [hl] at hs2
    -- unfolded first: `rfl` on the folded sides would compare the two loops
    cases lr <;> simp only [afterLoad]
    rcases delK_cases t f s2 ln with hd | hd <;> rw [hd, hd]
    exact loop_eq_NL t f fuel _ fun p bs hb => h1 p bs (hs2.script.2.2 _ hb)

theorem converge_eq_NL {sc : Script} (h : sc.Len64) (t : Task) (db : DB) (f : Option Pos) :
    converge t db sc f = convergeNL t db sc f := by
  rw [converge_eq, convergeNL, loop_eq_NL t f 1001 _ h]

end Shovel.World
