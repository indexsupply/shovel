import Shovel.Spec.RowTx
/-
  Lemmas that characterise the definitions of the row builder and of its specification (C11 / C12 / C13):
  the filter aggregate, `Filter.Accept` as the verdict of `holds`, the gate, the column list, and the
  specification's loops one step at a time.
-/
namespace Shovel.Row
open Shovel.Abi

theorem Frs.add_kind (fr : Frs) (b : Bool) : (fr.add b).kind = fr.kind := by
  fun_cases Frs.add fr b <;> rfl

theorem Frs.add_add (fr : Frs) (b : Bool) : (fr.add b).add b = fr.add b := by
  fun_cases Frs.add fr b with
  | case1 => simp [Frs.add]
  | case2 h1 h2 | case3 h1 h2 => simp [Frs.add, h1, h2]

theorem Frs.foldl_set (kind : String) (v : Bool) (bs : List Bool) :
    (bs.foldl Frs.add { kind := kind, set := true, val := v }).accept =
      if kind == "and" then v && bs.all id else v || bs.any id := by
  induction bs generalizing v with
  | nil => simp [Frs.accept]
  | cons b bs ih =>
    rw [List.foldl_cons]
    have : Frs.add { kind := kind, set := true, val := v } b =
        { kind := kind, set := true, val := if kind == "and" then v && b else v || b } := by
      simp only [Frs.add]; by_cases h : (kind == "and") = true <;> simp [h]
    rw [this, ih]
    by_cases h : (kind == "and") = true <;> simp [h, Bool.and_assoc, Bool.or_assoc]

-- the `String` tests of `accept` / `holds` on the operator names: `simp` does not evaluate them, the
-- kernel does
theorem ends_contains : ("contains".endsWith "contains") = true := by decide +kernel

theorem ends_ncontains : ("!contains".endsWith "contains") = true := by decide +kernel

theorem starts_contains : ("contains".startsWith "!") = false := by decide +kernel

theorem starts_ncontains : ("!contains".startsWith "!") = true := by decide +kernel

theorem ends_eq : ("eq".endsWith "contains") = false := by decide +kernel

theorem ends_ne : ("ne".endsWith "contains") = false := by decide +kernel

/-- the aggregate after a filter whose verdict (`holds`) is the argument -/
def Frs.addVerdict (frs : Frs) : Option (Res Bool) → Res Frs
  | none => .ok frs
  | some (.ok b) => .ok (frs.add b)
  | some _ => .err

/-- `Filter.Accept` is the verdict of `holds`, added to the aggregate.  In each kind the two sides are
    the same chain of tests once `addVerdict` is pushed to the leaves; only for byte strings does the
    model order them differently (the four named operators are instances of its two general branches)
    and add a `contains` verdict twice, which `Frs.add_add` absorbs. -/
theorem accept_eq (refs : Refs) (f : Filter) (dv : DVal) (frs : Frs) :
    accept refs f dv frs = frs.addVerdict (holds refs f dv) := by
  unfold accept holds Filter.active
  rw [Bool.not_not, apply_ite frs.addVerdict]
  refine ite_congr rfl (fun _ => rfl) fun _ => ?_
  cases dv with
  | bytes v =>
    dsimp only
    rw [Frs.add_add]
    by_cases h1 : f.op = "contains"
    · simp [h1, ends_contains, starts_contains, Frs.addVerdict]
    by_cases h2 : f.op = "!contains"
    · simp [h2, ends_ncontains, starts_ncontains, Frs.addVerdict]
    by_cases h3 : f.op = "eq"
    · simp [h3, ends_eq, Frs.addVerdict]
    by_cases h4 : f.op = "ne"
    · simp [h4, ends_ne, Frs.addVerdict]
    simp only [beq_iff_eq, Bool.or_eq_true, h1, h2, h3, h4, or_self, if_false, apply_ite frs.addVerdict]
    rfl
  | str v =>
    dsimp only
    cases f.args with
    | nil => rfl
    | cons a as => simp only [apply_ite frs.addVerdict]; rfl
  | u64 v | u256 v =>
    dsimp only [holds.cmp]
    cases f.args with
    | nil => rfl
    | cons a as =>
      dsimp only [List.head?_cons]
      cases parseDec a with
      | none => rfl
      | some i => simp only [apply_ite frs.addVerdict]; rfl
  | _ => rfl

theorem not_int_uint (base : List Char) :
    ¬ ("int".toList.isPrefixOf base = true ∧ "uint".toList.isPrefixOf base = true) := by
  cases base with
  | nil => simp
  | cons c cs =>
    intro ⟨h1, h2⟩
    simp [List.isPrefixOf] at h1 h2
    have a := h1.1; have b := h2.1; rw [← a] at b; exact absurd b (by decide)

theorem gate_eq_spec (n : Nat) (sh : List Nat) (lg : Log) :
    gate n sh lg = (decide (lg.topics.length = 1 + n) && lg.topics.headD [] == sh) := by
  unfold gate
  congr 1
  simp only [decide_eq_decide]; omega

/-- the form `gate_only` / `gate_reject_total` state -/
theorem gate_iff (n : Nat) (sh : List Nat) (lg : Log) :
    gate n sh lg = true ↔ (lg.topics.length = 1 + n ∧ lg.topics.head? = some sh) := by
  rw [gate_eq_spec]
  cases lg.topics with
  | nil => simp; omega
  | cons t ts => simp

theorem ownTopic_count_zero (rest : Inps) : ownTopic.count rest 0 = 0 := by
  cases rest <;> rfl

/-- `inputCols_eq_selWithTop` with the count function `G` left open, as the induction needs it -/
theorem inputCols_eq (G : Nat → Nat) : (rest : Inps) → (c k : Nat) →
    (∀ j, G (k + j) = c + ownTopic.count rest (j + 1)) →
    inputCols rest c = (selWithTop rest k).map (fun p => (p.1, G p.2.1, p.2.2))
  | .nil, c, k, _ => by simp [inputCols, selWithTop]
  | .cons i rest, c, k, hG => by
    simp only [inputCols, selWithTop, List.map_append, List.map_map]
    have h0 := hG 0
    simp only [ownTopic.count, Nat.add_zero, ownTopic_count_zero] at h0
    congr 1
    · apply List.map_congr_left
      intro p _
      simp only [Function.comp]
      rw [h0]; split <;> simp
    · apply inputCols_eq G rest _ (k + 1)
      intro j
      have := hG (j + 1)
      simp only [ownTopic.count] at this
      rw [show k + 1 + j = k + (j + 1) by omega, this]
      split <;> omega

/-- Under `ixOK` a selected entry marked indexed sits below a top-level input (at some position
    `k + j`) that is itself indexed: the count of indexed inputs goes up by one there. -/
theorem sel_ix : (rest : Inps) → (k : Nat) → ixOK rest = true →
    ∀ p ∈ selWithTop rest k, p.1 = true →
      ∃ j, p.2.1 = k + j ∧ ownTopic.count rest (j + 1) = 1 + ownTopic.count rest j
  | .nil, k, _ => by simp [selWithTop]
  | .cons i rest, k, hix => by
    intro p hp hp1
    simp only [ixOK, Bool.and_eq_true, Bool.or_eq_true] at hix
    simp only [selWithTop, List.mem_append, List.mem_map] at hp
    rcases hp with ⟨q, hq, rfl⟩ | hp
    · refine ⟨0, rfl, ?_⟩
      simp only [ownTopic.count, ownTopic_count_zero]
      rcases hix.1 with hi | hall
      · simp [hi]
      · rw [List.all_eq_true] at hall
        have := hall q hq
        simp only at hp1
        simp [hp1] at this
    · obtain ⟨j, hj, hc⟩ := sel_ix rest (k + 1) hix.2 p hp hp1
      refine ⟨j + 1, by omega, ?_⟩
      simp only [ownTopic.count]
      omega

theorem inputCols_eq_selWithTop (inputs : Inps) :
    inputCols inputs 0 =
      (selWithTop inputs 0).map fun p => (p.1, ownTopic.count inputs (p.2.1 + 1), p.2.2) :=
  inputCols_eq (fun k => ownTopic.count inputs (k + 1)) inputs 0 0 (by intro j; simp)

theorem count_ownTopic (inputs : Inps) (hix : ixOK inputs = true) (p : Bool × Nat × List Char)
    (hp : p ∈ selWithTop inputs 0) (hp1 : p.1 = true) :
    ownTopic.count inputs (p.2.1 + 1) = ownTopic inputs p.2.1 := by
  obtain ⟨j, hj, hc⟩ := sel_ix inputs 0 hix p hp hp1
  simp only [Nat.zero_add] at hj
  simp only [hj, ownTopic, hc]

/-- the model's input coldefs, with the filter list consumed by `headD` / `drop` as the
    specification does instead of by index -/
def inputColDefs (G : Nat → Nat) : List (Bool × Nat × List Char) → List Filter → List ColDef
  | [], _ => []
  | (ix, k, ty) :: rest, fl => .input ix (G k) ty (fl.headD {}) :: inputColDefs G rest (fl.drop 1)

theorem inputColDefs_zipIdx (G : Nat → Nat) (fl0 : List Filter) (l : List (Bool × Nat × List Char)) (n : Nat) :
    ((l.map (fun p => (p.1, G p.2.1, p.2.2))).zipIdx n).map
        (fun (x : (Bool × Nat × List Char) × Nat) => ColDef.input x.1.1 x.1.2.1 x.1.2.2 (fl0.getD x.2 {})) =
      inputColDefs G l (fl0.drop n) := by
  induction l generalizing n with
  | nil => rfl
  | cons p l ih =>
    have hd : (fl0.drop n).headD {} = fl0.getD n {} := by
      simp [List.headD_eq_head?_getD, List.head?_drop, List.getD_eq_getElem?_getD]
    simp only [List.map_cons, List.zipIdx_cons, inputColDefs, ih (n + 1), List.drop_drop, hd]

theorem coldefs_eq (d : Decl) :
    d.coldefs = inputColDefs (fun k => ownTopic.count d.inputs (k + 1)) (selWithTop d.inputs 0) d.inputFilters ++
      d.block.map (fun c => ColDef.block c.1 c.2) := by
  rw [Decl.coldefs, inputCols_eq_selWithTop]
  exact congrArg (· ++ _)
    (inputColDefs_zipIdx (fun k => ownTopic.count d.inputs (k + 1)) d.inputFilters (selWithTop d.inputs 0) 0)

-- the specification's loops as `Option.bind` chains, so that a hypothesis `… = some p` comes apart
-- with `Option.bind_eq_some_iff`

/-- one column's cell and verdict in front of the cells and truth values of the columns after it -/
def addRes (v : DVal) (w : Option (Res Bool)) (p : List DVal × List Bool) : Option (List DVal × List Bool) :=
  match w with
  | none => some (v :: p.1, p.2)
  | some (.ok b) => some (v :: p.1, b :: p.2)
  | some _ => none

theorem specRow_goIn_true (refs : Refs) (d : Decl) (lg : Log) (k : Nat) (ty : List Char)
    (rest : List (Bool × Nat × List Char)) (fl : List Filter) (cs : List (Option (List Nat))) :
    specRow.goIn refs d lg ((true, k, ty) :: rest) fl cs =
      lg.topics[ownTopic d.inputs k]?.bind fun t =>
        (specRow.goIn refs d lg rest (fl.drop 1) cs).bind
          (addRes (renderSpec ty t) (holds refs (fl.headD {}) (renderSpec ty t))) := by
  cases cs <;> cases ht : lg.topics[ownTopic d.inputs k]? <;>
    simp only [specRow.goIn, ht, if_true, Option.map_none, Option.map_some, Option.bind_none, Option.bind_some] <;>
    cases specRow.goIn refs d lg rest (fl.drop 1) _ <;> rfl

theorem specRow_goIn_false (refs : Refs) (d : Decl) (lg : Log) (k : Nat) (ty : List Char)
    (rest : List (Bool × Nat × List Char)) (fl : List Filter) (cs : List (Option (List Nat))) :
    specRow.goIn refs d lg ((false, k, ty) :: rest) fl cs =
      match cs with
      | [] => none
      | c :: cs' => (specRow.goIn refs d lg rest (fl.drop 1) cs').bind
          (addRes (renderSpec ty (c.getD [])) (holds refs (fl.headD {}) (renderSpec ty (c.getD [])))) := by
  cases cs with
  | nil => simp [specRow.goIn]
  | cons c cs' =>
    simp only [specRow.goIn, Bool.false_eq_true, if_false]
    cases specRow.goIn refs d lg rest (fl.drop 1) cs' <;> rfl

theorem specRow_goBd_cons (refs : Refs) (ctx : Ctx) (hd : Bool) (i : Nat) (n : String) (f : Filter)
    (rest : List (String × Filter)) :
    specRow.goBd refs ctx hd i ((n, f) :: rest) =
      (specRow.goBd refs ctx hd i rest).bind fun r =>
        if n == "abi_idx" then (if hd then some (.int i :: r.1, r.2) else none)
        else addRes (ctx.get n) (holds refs f (ctx.get n)) r := by
  rw [specRow.goBd]
  cases specRow.goBd refs ctx hd i rest with
  | none => rfl
  | some r => cases n == "abi_idx" <;> rfl

theorem specRow_eq (refs : Refs) (d : Decl) (ctx : Ctx) (lg : Log) (hd : Bool)
    (cells : List (Option (List Nat))) (i : Nat) :
    specRow refs d ctx lg hd cells i =
      (specRow.goIn refs d lg (selWithTop d.inputs 0) d.inputFilters cells).bind fun a =>
        (specRow.goBd refs ctx hd i d.block).bind fun b => some (a.1 ++ b.1, a.2 ++ b.2) := by
  unfold specRow
  dsimp only
  cases specRow.goIn refs d lg (selWithTop d.inputs 0) d.inputFilters cells with
  | none => rfl
  | some a => cases specRow.goBd refs ctx hd i d.block <;> rfl

theorem specRows_go_cons (refs : Refs) (d : Decl) (ctx : Ctx) (lg : Log) (v : Option Val)
    (cells : List (Option (List Nat))) (more : List (List (Option (List Nat)))) (i : Nat) :
    specRows.go refs d ctx lg v (cells :: more) i =
      (specRow refs d ctx lg v.isSome cells i).bind fun r =>
        (specRows.go refs d ctx lg v more (i + 1)).bind fun rows =>
          some (if aggAccept d.agg r.2 then r.1 :: rows else rows) := by
  simp only [specRows.go]
  cases specRow refs d ctx lg v.isSome cells i with
  | none => rfl
  | some r => cases specRows.go refs d ctx lg v more (i + 1) <;> rfl

theorem addRes_some {v : DVal} {w : Option (Res Bool)} {r p : List DVal × List Bool}
    (h : addRes v w r = some p) :
    p = (v :: r.1, (w.bind truthOf).toList ++ r.2) ∧
      ∀ frs : Frs, frs.addVerdict w = .ok ((w.bind truthOf).toList.foldl Frs.add frs) := by
  cases w with
  | none => cases h; exact ⟨rfl, fun _ => rfl⟩
  | some x =>
    cases x with
    | ok b => cases h; exact ⟨rfl, fun _ => rfl⟩
    | _ => cases h

-- for `pushdown_sound`

theorem holds_inactive (refs : Refs) (f : Filter) (v : DVal) (h : f.active = false) :
    holds refs f v = none := by
  rw [Filter.active, Bool.not_eq_false'] at h
  unfold holds
  exact if_pos h

theorem addRes_len {refs : Refs} {f : Filter} {v : DVal} {r p : List DVal × List Bool}
    (h : addRes v (holds refs f v) r = some p) : p.2.length ≤ r.2.length + if f.active then 1 else 0 := by
  obtain ⟨rfl, -⟩ := addRes_some h
  have : ((holds refs f v).bind truthOf).toList.length ≤ if f.active then 1 else 0 := by
    cases hact : f.active with
    | false => simp [holds_inactive refs f v hact]
    | true => exact Option.length_toList_le
  simp only [List.length_append]
  omega

/-- the function `Decl.activeFilters` maps over the columns, named so that lemmas can mention it
    (`activeFilters_eq`) -/
def fltOf : ColDef → Filter
  | .input _ _ _ f => f
  | .block _ f => f

theorem activeFilters_eq (d : Decl) :
    d.activeFilters = (d.coldefs.map fltOf).countP Filter.active := by
  rw [List.countP_eq_length_filter]
  rfl

theorem specRow_goBd_len {refs : Refs} {ctx : Ctx} {hd : Bool} {i : Nat} {block : List (String × Filter)}
    {p : List DVal × List Bool} (h : specRow.goBd refs ctx hd i block = some p) :
    p.2.length ≤ ((block.map fun c => ColDef.block c.1 c.2).map fltOf).countP Filter.active := by
  induction block generalizing p with
  | nil => cases h; exact Nat.zero_le _
  | cons c rest ih =>
    obtain ⟨n, f⟩ := c
    rw [specRow_goBd_cons, Option.bind_eq_some_iff] at h
    obtain ⟨r, hr, h⟩ := h
    have := ih hr
    simp only [List.map_cons, fltOf, List.countP_cons]
    split at h
    · split at h <;> cases h
      exact Nat.le_add_right_of_le this
    · have := addRes_len h
      omega

theorem specRow_goIn_len {refs : Refs} {d : Decl} {lg : Log} (G : Nat → Nat)
    {cols : List (Bool × Nat × List Char)} {fl : List Filter} {cells : List (Option (List Nat))}
    {p : List DVal × List Bool} (h : specRow.goIn refs d lg cols fl cells = some p) :
    p.2.length ≤ ((inputColDefs G cols fl).map fltOf).countP Filter.active := by
  induction cols generalizing fl cells p with
  | nil => cases h; exact Nat.zero_le _
  | cons c rest ih =>
    obtain ⟨ix, k, ty⟩ := c
    simp only [inputColDefs, List.map_cons, fltOf, List.countP_cons]
    cases ix with
    | true =>
      simp only [specRow_goIn_true, Option.bind_eq_some_iff] at h
      obtain ⟨t, -, r, hr, h⟩ := h
      have := ih hr
      have := addRes_len h
      omega
    | false =>
      rw [specRow_goIn_false] at h
      cases cells with
      | nil => cases h
      | cons c cells' =>
        simp only [Option.bind_eq_some_iff] at h
        obtain ⟨r, hr, h⟩ := h
        have := ih hr
        have := addRes_len h
        omega

theorem specRow_len {refs : Refs} {d : Decl} {ctx : Ctx} {lg : Log} {hd : Bool}
    {cells : List (Option (List Nat))} {i : Nat} {p : List DVal × List Bool}
    (h : specRow refs d ctx lg hd cells i = some p) : p.2.length ≤ d.activeFilters := by
  simp only [specRow_eq, Option.bind_eq_some_iff] at h
  obtain ⟨a, h1, b, h2, h⟩ := h
  cases h
  have l1 := specRow_goIn_len (fun k => ownTopic.count d.inputs (k + 1)) h1
  have l2 := specRow_goBd_len h2
  rw [activeFilters_eq, coldefs_eq, List.map_append, List.countP_append, List.length_append]
  omega

theorem specRow_goBd_mem {refs : Refs} {ctx : Ctx} {hd : Bool} {i : Nat} {block : List (String × Filter)}
    {p : List DVal × List Bool} (h : specRow.goBd refs ctx hd i block = some p)
    {n : String} {f : Filter} (hm : (n, f) ∈ block) (hn : (n == "abi_idx") = false) {b : Bool}
    (hb : holds refs f (ctx.get n) = some (.ok b)) : b ∈ p.2 := by
  induction block generalizing p with
  | nil => cases hm
  | cons c rest ih =>
    obtain ⟨n', f'⟩ := c
    rw [specRow_goBd_cons, Option.bind_eq_some_iff] at h
    obtain ⟨r, hr, h⟩ := h
    rcases List.mem_cons.mp hm with he | hm'
    · cases he
      rw [hn, if_neg Bool.false_ne_true] at h
      obtain ⟨rfl, -⟩ := addRes_some h
      simp [hb, truthOf]
    · have := ih hr hm'
      split at h
      · split at h <;> cases h
        exact this
      · obtain ⟨rfl, -⟩ := addRes_some h
        exact List.mem_append_right _ this

theorem specRows_go_emit {refs : Refs} {d : Decl} {ctx : Ctx} {lg : Log} {v : Option Val}
    {rs0 : List (List (Option (List Nat)))} {i : Nat} {rows : List (List DVal)}
    (h : specRows.go refs d ctx lg v rs0 i = some rows) (hne : rows ≠ []) :
    ∃ cells i' p, specRow refs d ctx lg v.isSome cells i' = some p ∧ aggAccept d.agg p.2 = true := by
  fun_induction specRows.go refs d ctx lg v rs0 i generalizing rows with
  | case1 => cases h; exact absurd rfl hne
  | case2 cells more i row bs rows' h2 h1 ih =>
    by_cases ha : aggAccept d.agg bs = true
    · exact ⟨cells, i, _, h1, ha⟩
    · rw [if_neg ha] at h
      cases h
      exact ih h2 hne
  | case3 => cases h

theorem aggAccept_mem {agg : String} {bs : List Bool} {b : Bool} (h : aggAccept agg bs = true)
    (hb : b ∈ bs) (hone : (agg == "and") = true ∨ bs.length ≤ 1) : b = true := by
  have hne : bs.isEmpty = false := by cases bs <;> simp_all
  rw [aggAccept, hne, Bool.false_or] at h
  rcases hone with hand | hlen
  · rw [if_pos hand, List.all_eq_true] at h
    exact h b hb
  · rcases bs with _ | ⟨x, _ | _⟩
    · cases hb
    · cases List.mem_singleton.mp hb
      split at h <;> simpa using h
    · simp at hlen

theorem isInfix_go_len (sub v : List Nat) (h : isInfix.go sub v = true) : sub.length ≤ v.length := by
  fun_induction isInfix.go sub v with
  | case1 => simp [List.isEmpty_iff.mp h]
  | case2 x xs ih =>
    rw [Bool.or_eq_true] at h
    rcases h with h | h
    · exact (List.isPrefixOf_iff_prefix.mp h).length_le
    · have := ih h
      simp only [List.length_cons]; omega

theorem isInfix_eq_len (sub v : List Nat) (h : isInfix sub v = true) (hl : sub.length = v.length) :
    sub = v := by
  unfold isInfix at h
  cases v with
  | nil => simpa using hl
  | cons x xs =>
    simp only [isInfix.go, Bool.or_eq_true] at h
    rcases h with h | h
    · exact (List.isPrefixOf_iff_prefix.mp h).eq_of_length hl
    · have := isInfix_go_len sub xs h
      simp only [List.length_cons] at hl; omega

/-- a pushed filter judges a 20-byte address by membership in its argument list: its arguments are
    20 bytes long, so `contains` can only hold by equality -/
theorem pushAddrs_holds (refs : Refs) (d : Decl) (f : Filter) (a : List Nat) (hp : pushAddrs d f = true)
    (hlen : a.length = 20) :
    ∃ b, holds refs f (.bytes a) = some (.ok b) ∧ (b = true → a ∈ f.args.map decodeHexStr) := by
  simp only [pushAddrs, Bool.and_eq_true, Bool.not_eq_true', Bool.or_eq_true, List.all_eq_true,
    beq_iff_eq] at hp
  obtain ⟨⟨⟨⟨hargs, hrt⟩, hop⟩, hall⟩, -⟩ := hp
  have hact : (f.args.isEmpty && f.refInteg.isEmpty) = false := by rw [hargs]; rfl
  have hrt' : (!f.refTable.isEmpty) = false := by rw [hrt]; rfl
  rcases hop with hop | hop
  · refine ⟨_, by simp only [holds, hact, hop, hrt']; rfl, fun hb => ?_⟩
    simp only [Bool.false_eq_true, if_false, List.any_eq_true] at hb
    obtain ⟨x, hx, hxi⟩ := hb
    exact List.mem_map.mpr ⟨x, hx, isInfix_eq_len _ _ hxi (by rw [hlen]; exact hall x hx)⟩
  · refine ⟨_, by simp only [holds, hact, hop, hrt']; rfl, fun hb => ?_⟩
    simp only [List.any_eq_true, beq_iff_eq] at hb
    obtain ⟨x, hx, hxi⟩ := hb
    exact List.mem_map.mpr ⟨x, hx, hxi.symm⟩

end Shovel.Row
