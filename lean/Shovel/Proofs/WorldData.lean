import Shovel.Model.World
import Shovel.Spec.World
/-
  The data a step works on, apart from the step itself: slices of a chain, the sorting and link
  check of `load`, the folds behind the SQL statements (`latestCur`, `topOf`, `depTarget`), and the
  recorded position `pos` read off them.
-/
namespace Shovel.World

-- list lemmas that core does not have

theorem sublist_flatMap {α β} (f : α → List β) {l₁ l₂ : List α} (h : l₁.Sublist l₂) :
    (l₁.flatMap f).Sublist (l₂.flatMap f) := by
  induction h with
  | slnil => exact List.Sublist.refl _
  | cons a _ ih =>
    rw [List.flatMap_cons]
    exact ih.trans (List.sublist_append_right _ _)
  | cons_cons a _ ih =>
    rw [List.flatMap_cons, List.flatMap_cons]
    exact List.Sublist.append (List.Sublist.refl _) ih

theorem eraseDups_nodup {α : Type} [BEq α] [LawfulBEq α] : ∀ (l : List α), l.Nodup → l.eraseDups = l
  | [], _ => by simp
  | a :: l, h => by
    obtain ⟨h1, h2⟩ := List.nodup_cons.mp h
    rw [List.eraseDups_cons, List.filter_eq_self.mpr, eraseDups_nodup l h2]
    intro b hb
    have : b ≠ a := fun e => h1 (e ▸ hb)
    simpa using this

theorem find?_erase_ne {α} [BEq α] [LawfulBEq α] (p : α → Bool) (g : α) (hg : p g = false) :
    ∀ l : List α, (l.erase g).find? p = l.find? p
  | [] => rfl
  | a :: l => by
    rw [List.erase_cons]
    cases hag : a == g with
    | true =>
      cases eq_of_beq hag
      simp only [↓reduceIte, List.find?_cons, hg]
    | false =>
      simp only [Bool.false_eq_true, ↓reduceIte, List.find?_cons]
      rw [find?_erase_ne p g hg l]

theorem find?_map_key {κ β} [BEq κ] [LawfulBEq κ] (f : κ → β) (k : κ) :
    ∀ ks : List κ, k ∈ ks → (ks.map fun p => (p, f p)).find? (fun g => g.1 == k) = some (k, f k)
  | [], h => by cases h
  | a :: r, h => by
    rw [List.map_cons, List.find?_cons]
    cases hak : a == k with
    | true =>
      have := eq_of_beq hak
      subst this
      simp only
    | false =>
      simp only
      apply find?_map_key f k r
      rcases List.mem_cons.mp h with rfl | h
      · simp at hak
      · exact h

theorem filter_of_filter_eq {α} {p q : α → Bool} {l₁ l₂ : List α} (hpq : ∀ x, p x = true → q x = true)
    (h : l₁.filter q = l₂.filter q) : l₁.filter p = l₂.filter p := by
  have e : ∀ l : List α, l.filter p = (l.filter q).filter p := by
    intro l
    rw [List.filter_filter]
    apply List.filter_congr
    intro x _
    cases hp : p x <;> simp_all
  rw [e l₁, e l₂, h]

theorem slice_getElem? (c : Chain) (st k i : Nat) :
    (c.slice st k)[i]? = if i < k then c.blks[st + i]? else none := by
  unfold Chain.slice
  rw [List.getElem?_take, List.getElem?_drop]

theorem mem_slice_num {c : Chain} (hc : c.WF) {st k : Nat} {b : Blk} (h : b ∈ c.slice st k) :
    st ≤ b.num ∧ b.num < st + k ∧ c.blks[b.num]? = some b := by
  obtain ⟨i, hi⟩ := List.mem_iff_getElem?.mp h
  rw [slice_getElem?] at hi
  split at hi
  · rw [hc.num _ _ hi]
    exact ⟨by omega, by omega, hi⟩
  · cases hi

theorem slice_append (c : Chain) (st a b : Nat) :
    c.slice st (a + b) = c.slice st a ++ c.slice (st + a) b := by
  unfold Chain.slice
  rw [List.take_add, List.drop_drop]

theorem slice_zero (c : Chain) (st : Nat) : c.slice st 0 = [] := List.take_zero

theorem slice_sublist (c : Chain) (st k : Nat) : (c.slice st k).Sublist c.blks :=
  (List.take_sublist _ _).trans (List.drop_sublist _ _)

theorem slice_succ (c : Chain) (st k : Nat) :
    c.slice st (k + 1) = c.slice st k ++ (c.blks[st + k]?).toList := by
  rw [slice_append]
  congr 1
  unfold Chain.slice
  cases h : c.blks[st + k]? with
  | none => rw [List.drop_eq_nil_of_le (List.getElem?_eq_none_iff.mp h)]; rfl
  | some b =>
    obtain ⟨hn, hb⟩ := List.getElem?_eq_some_iff.mp h
    rw [List.drop_eq_getElem_cons hn, hb]; rfl

theorem le_head_iff {c : Chain} (hc : c.WF) (n : Nat) : n ≤ c.head ↔ n < c.blks.length := by
  have : c.blks.length ≠ 0 := fun h => hc.nonempty (List.length_eq_zero_iff.mp h)
  unfold Chain.head
  omega

theorem hashAt_of {c : Chain} {n : Nat} {b : Blk} (h : c.blks[n]? = some b) : c.hashAt n = b.hash := by
  unfold Chain.hashAt; rw [h]

theorem get_of_le_head {c : Chain} (hc : c.WF) {n : Nat} (h : n ≤ c.head) : ∃ b, c.blks[n]? = some b :=
  ⟨_, List.getElem?_eq_getElem ((le_head_iff hc n).mp h)⟩

theorem slice_first {c : Chain} (hc : c.WF) (st k : Nat) (hk : 1 ≤ k) (h : st ≤ c.head) :
    ∃ b rest, c.slice st k = b :: rest ∧ c.blks[st]? = some b := by
  obtain ⟨b, hb⟩ := get_of_le_head hc h
  have h0 : (c.slice st k)[0]? = some b := by
    rw [slice_getElem?, if_pos (by omega)]; exact hb
  cases hs : c.slice st k with
  | nil => rw [hs] at h0; cases h0
  | cons x rest =>
    rw [hs] at h0
    cases h0
    exact ⟨_, rest, rfl, hb⟩

theorem slice_last {c : Chain} (hc : c.WF) (p k : Nat) (hk : 1 ≤ k) (h : p + k ≤ c.head) :
    ∃ last, (c.slice (p + 1) k).getLast? = some last ∧ last.num = p + k ∧ last.hash = c.hashAt (p + k) := by
  obtain ⟨b, hb⟩ := get_of_le_head hc h
  refine ⟨b, ?_, hc.num _ _ hb, (hashAt_of hb).symm⟩
  obtain ⟨j, rfl⟩ : ∃ j, k = j + 1 := ⟨k - 1, by omega⟩
  rw [slice_succ, Nat.add_right_comm, Nat.add_assoc, hb]
  exact List.getLast?_concat ..

theorem mem_insertSorted (b x : Blk) : ∀ l : List Blk, x ∈ insertSorted b l ↔ x = b ∨ x ∈ l
  | [] => by simp [insertSorted]
  | y :: ys => by
    unfold insertSorted
    split
    · simp
    · simp only [List.mem_cons, mem_insertSorted b x ys]
      exact or_left_comm

theorem mem_sortBlks (x : Blk) (l : List Blk) : x ∈ sortBlks l ↔ x ∈ l := by
  have : ∀ (l acc : List Blk), x ∈ l.foldl (fun acc b => insertSorted b acc) acc ↔ x ∈ acc ∨ x ∈ l := by
    intro l
    induction l with
    | nil => simp
    | cons b l ih =>
      intro acc
      rw [List.foldl_cons, ih, mem_insertSorted, List.mem_cons, or_assoc]
      exact or_left_comm
  simpa [sortBlks] using this l []

theorem insertSorted_last (b : Blk) : ∀ l : List Blk, (∀ x ∈ l, x.num ≤ b.num) → insertSorted b l = l ++ [b]
  | [], _ => rfl
  | y :: ys, h => by
    have h1 := h y (List.mem_cons_self ..)
    unfold insertSorted
    rw [if_neg (by omega), insertSorted_last b ys (fun x hx => h x (List.mem_cons_of_mem _ hx))]
    rfl

theorem sortBlks_slice {c : Chain} (hc : c.WF) (st : Nat) : ∀ k, sortBlks (c.slice st k) = c.slice st k
  | 0 => by rw [slice_zero]; rfl
  | k + 1 => by
    rw [slice_succ]
    cases h : c.blks[st + k]? with
    | none => rw [Option.toList_none, List.append_nil]; exact sortBlks_slice hc st k
    | some b =>
      unfold sortBlks
      rw [Option.toList_some, List.foldl_append]
      show insertSorted b (sortBlks (c.slice st k)) = _
      rw [sortBlks_slice hc st k]
      apply insertSorted_last
      intro x hx
      have := (mem_slice_num hc hx).2.1
      have := hc.num _ _ h
      omega

theorem linked_of_links : ∀ l : List Blk,
    (∀ (i : Nat) (a b : Blk), l[i]? = some a → l[i + 1]? = some b → b.parent = a.hash) → linked l = true
  | [], _ => rfl
  | [_], _ => rfl
  | a :: b :: rest, h => by
    unfold linked
    rw [linked_of_links (b :: rest) (fun i x y hx hy => h (i + 1) x y hx hy), h 0 a b rfl rfl]
    simp

theorem linked_slice {c : Chain} (hc : c.WF) (st k : Nat) : linked (c.slice st k) = true := by
  apply linked_of_links
  intro i a b ha hb
  rw [slice_getElem?] at ha hb
  split at ha
  · split at hb
    · exact hc.link (st + i) a b ha hb
    · cases hb
  · cases ha

def bestStep (best : Option Cur) (c : Cur) : Option Cur :=
  match best with
  | none => some c
  | some b => if c.num > b.num then some c else some b

theorem latestCur_congr {a b : DB} {src ig : String}
    (h : (a.cur.filter fun c => c.src == src && c.ig == ig) = (b.cur.filter fun c => c.src == src && c.ig == ig)) :
    a.latestCur src ig = b.latestCur src ig :=
  congrArg (List.foldl bestStep none) h

theorem bestStep_spec (init : Option Cur) (a : Cur) : ∃ a', bestStep init a = some a' ∧
    (a' = a ∨ init = some a') ∧ a.num ≤ a'.num ∧ ∀ b, init = some b → b.num ≤ a'.num := by
  cases init with
  | none => exact ⟨a, rfl, .inl rfl, Nat.le_refl _, nofun⟩
  | some b =>
    by_cases hab : a.num > b.num
    · exact ⟨a, by simp only [bestStep, hab, ↓reduceIte], .inl rfl, Nat.le_refl _, fun _ h => by cases h; omega⟩
    · exact ⟨b, by simp only [bestStep, hab, ↓reduceIte], .inr rfl, by omega, fun _ h => by cases h; exact Nat.le_refl _⟩

theorem best_spec : ∀ (l : List Cur) (init : Option Cur),
    match l.foldl bestStep init with
    | none => init = none ∧ l = []
    | some c => (init = some c ∨ c ∈ l) ∧ (∀ x ∈ l, x.num ≤ c.num) ∧ (∀ b, init = some b → b.num ≤ c.num)
  | [], none => ⟨rfl, rfl⟩
  | [], some _ => ⟨.inl rfl, nofun, fun _ h => by cases h; exact Nat.le_refl _⟩
  | a :: l, init => by
    obtain ⟨a', ha, hfrom, hle, hinit⟩ := bestStep_spec init a
    have ih := best_spec l (bestStep init a)
    rw [List.foldl_cons]
    rw [ha] at ih ⊢
    cases hr : l.foldl bestStep (some a') with
    | none => rw [hr] at ih; cases ih.1
    | some c =>
      rw [hr] at ih
      obtain ⟨h1, h2, h3⟩ := ih
      have hac := h3 a' rfl
      refine ⟨?_, fun x hx => ?_, fun b hb => Nat.le_trans (hinit b hb) hac⟩
      · rcases h1 with h1 | h1
        · cases h1
          exact hfrom.elim (fun h => .inr (h ▸ List.mem_cons_self ..)) .inl
        · exact .inr (List.mem_cons_of_mem _ h1)
      · rcases List.mem_cons.mp hx with rfl | hx
        · omega
        · exact h2 x hx

theorem best_eq_none_iff {cs : List Cur} : cs.foldl bestStep none = none ↔ cs = [] := by
  have := best_spec cs none
  constructor
  · intro h; rw [h] at this; exact this.2
  · rintro rfl; rfl

theorem best_some {cs : List Cur} {c : Cur} (h : cs.foldl bestStep none = some c) :
    c ∈ cs ∧ ∀ x ∈ cs, x.num ≤ c.num := by
  have := best_spec cs none
  rw [h] at this
  exact ⟨this.1.resolve_left nofun, this.2.1⟩

def topStep (m : Option Nat) (x : Cur) : Option Nat :=
  match m with
  | none => some x.num
  | some n => some (max n x.num)

theorem topOf_snoc (cs : List Cur) (x : Cur) : topOf (cs ++ [x]) = topStep (topOf cs) x :=
  List.foldl_append ..

theorem topOf_best (cs : List Cur) : topOf cs = (cs.foldl bestStep none).map (·.num) := by
  have : ∀ (l : List Cur) (init : Option Cur),
      l.foldl topStep (init.map (·.num)) = (l.foldl bestStep init).map (·.num) := by
    intro l
    induction l with
    | nil => intro _; rfl
    | cons a l ih =>
      intro init
      rw [List.foldl_cons, List.foldl_cons, ← ih]
      congr 1
      cases init with
      | none => rfl
      | some b =>
        unfold bestStep topStep
        simp only [Option.map_some]
        split <;> simp only [Option.map_some] <;> congr 1 <;> omega
  exact this cs none

theorem topOf_eq_none_iff {cs : List Cur} : topOf cs = none ↔ cs = [] := by
  rw [topOf_best, Option.map_eq_none_iff, best_eq_none_iff]

theorem topOf_eq_some_iff {cs : List Cur} {m : Nat} :
    topOf cs = some m ↔ (∃ x ∈ cs, x.num = m) ∧ ∀ y ∈ cs, y.num ≤ m := by
  rw [topOf_best, Option.map_eq_some_iff]
  constructor
  · rintro ⟨c, hc, rfl⟩
    exact ⟨⟨c, (best_some hc).1, rfl⟩, (best_some hc).2⟩
  · rintro ⟨⟨x, hx, rfl⟩, hub⟩
    cases hb : cs.foldl bestStep none with
    | none => rw [best_eq_none_iff.mp hb] at hx; cases hx
    | some c =>
      have := best_some hb
      exact ⟨c, rfl, Nat.le_antisymm (hub c this.1) (this.2 x hx)⟩

/-- the recorded position of `t`: its newest one, or the block before the configured start -/
def pos (t : Task) (v : DB) : Nat := (topOf (v.cur.filter (mineC t))).getD (t.start - 1)

theorem topOf_latest (t : Task) (db : DB) :
    topOf (db.cur.filter (mineC t)) = (db.latestCur t.src t.ig).map (·.num) := topOf_best _

theorem latestCur_mem {t : Task} {v : DB} {x : Cur} (h : v.latestCur t.src t.ig = some x) :
    x ∈ v.cur.filter (mineC t) ∧ ∀ y ∈ v.cur.filter (mineC t), y.num ≤ x.num := best_some h

theorem mem_mine_cur {t : Task} {v : DB} {x : Cur} :
    x ∈ v.cur.filter (mineC t) ↔ x ∈ v.cur ∧ x.src = t.src ∧ x.ig = t.ig := by
  rw [List.mem_filter]; simp [mineC]

theorem latestCur_none {t : Task} {v : DB} (h : v.latestCur t.src t.ig = none) : v.cur.filter (mineC t) = [] :=
  best_eq_none_iff.mp h

theorem latestCur_of_mem {t : Task} {v : DB} {g : Cur} (hg : g ∈ v.cur.filter (mineC t)) :
    ∃ x, v.latestCur t.src t.ig = some x := by
  cases h : v.latestCur t.src t.ig with
  | some x => exact ⟨x, rfl⟩
  | none => rw [latestCur_none h] at hg; cases hg

theorem pos_some {t : Task} {v : DB} {x : Cur} (h : v.latestCur t.src t.ig = some x) : pos t v = x.num := by
  unfold pos; rw [topOf_latest, h]; rfl

theorem pos_none {t : Task} {v : DB} (h : v.latestCur t.src t.ig = none) : pos t v = t.start - 1 := by
  unfold pos; rw [topOf_latest, h]; rfl

def minStep (best : Option (Nat × String)) (c : Cur) : Option (Nat × String) :=
  match best with
  | none => some (c.num, c.hash)
  | some (n, h) => if c.num < n then some (c.num, c.hash) else some (n, h)

theorem minStep_spec (init : Option (Nat × String)) (a : Cur) : ∃ n h, minStep init a = some (n, h) ∧
    n ≤ a.num ∧ ∀ n0 h0, init = some (n0, h0) → n ≤ n0 := by
  rcases init with _ | ⟨n0, h0⟩
  · exact ⟨_, _, rfl, Nat.le_refl _, nofun⟩
  · by_cases hlt : a.num < n0
    · exact ⟨a.num, a.hash, by simp only [minStep, hlt, ↓reduceIte], Nat.le_refl _, fun _ _ h => by cases h; omega⟩
    · exact ⟨n0, h0, by simp only [minStep, hlt, ↓reduceIte], by omega, fun _ _ h => by cases h; exact Nat.le_refl _⟩

theorem min_spec : ∀ (l : List Cur) (init : Option (Nat × String)) (n : Nat) (h : String),
    l.foldl minStep init = some (n, h) →
    (∀ x ∈ l, n ≤ x.num) ∧ (∀ n0 h0, init = some (n0, h0) → n ≤ n0)
  | [], init, n, h, hr =>
    ⟨nofun, fun n0 h0 hi => by rw [List.foldl_nil, hi] at hr; cases hr; exact Nat.le_refl _⟩
  | a :: l, init, n, h, hr => by
    obtain ⟨n', h', hm, hle, hinit⟩ := minStep_spec init a
    rw [List.foldl_cons, hm] at hr
    obtain ⟨h1, h2⟩ := min_spec l _ n h hr
    have := h2 n' h' rfl
    refine ⟨fun x hx => ?_, fun n0 h0 hi => Nat.le_trans this (hinit n0 h0 hi)⟩
    rcases List.mem_cons.mp hx with rfl | hx
    · omega
    · exact h1 x hx

theorem depTarget_some {db : DB} {src : String} {deps : List String} {n : Nat} {h : String}
    (hd : db.depTarget src deps = some (n, h)) :
    ∀ d ∈ deps, ∃ x, db.latestCur src d = some x ∧ n ≤ x.num := by
  unfold DB.depTarget at hd
  simp only [] at hd
  split at hd
  · cases hd
  · rename_i hlen
    intro d hdm
    have hdu : d ∈ deps.eraseDups := List.mem_eraseDups.mpr hdm
    have hall := List.filterMap_length_eq_length.mp
      (Nat.le_antisymm (List.length_filterMap_le ..) (Nat.le_of_not_lt hlen))
    obtain ⟨x, hx⟩ := Option.isSome_iff_exists.mp (hall d hdu)
    exact ⟨x, hx, (min_spec _ none n h hd).1 x (List.mem_filterMap.mpr ⟨d, hdu, hx⟩)⟩

end Shovel.World
