import Shovel.Proofs.AbiArr
/-
  C09: `scan` on an encoding in row mode, `scanR` (`r = .single`): scalars go to the singleton,
  every element of a selected (innermost) array gets a fresh row.
-/
namespace Shovel.Abi

mutual
/-- row mode (`R`, `r = .single`): the post-state is always singleton writes, then row pushes
    (`pushRows_writeCells_seq` keeps it so) -/
theorem scanR {b : Buf} (hb : BufOK b) (w : Nat) : (t : Ty) → (v : Val) → (off : Nat) →
    (∀ p ∈ t.sels, p < w) → t.inDomain = true → WellTyped t v = true → At b off (enc t v) →
    ∃ lc lr, Loc b lc (leaves t v) ∧ LocRows b lr (arrRows t v) ∧
      ∀ s, WF s w → scan b t off .single s = .ok (pushRows lr (writeCells .single lc s))
  | .stat sel, v, off, hw, _, hwt, hat => by
    obtain ⟨lc, h1, h2⟩ := scanL_stat hb w sel v off hw hwt hat
    exact ⟨lc, [], h1, by rw [arrRows_stat]; exact LocRows.nil b,
      fun s hwf => h2 .single s hwf.2.1⟩
  | .dyn sel, v, off, hw, _, hwt, hat => by
    obtain ⟨lc, h1, h2⟩ := scanL_dyn hb w sel v off hw hwt hat
    exact ⟨lc, [], h1, by rw [arrRows_dyn]; exact LocRows.nil b,
      fun s hwf => h2 .single s hwf.2.1⟩
  | .arr k e, v, off, hw, hdom, hwt, hat => by
    cases v <;> simp only [WellTyped, Bool.false_eq_true] at hwt
    rename_i vs
    rw [Bool.and_eq_true] at hwt
    by_cases hsel : e.hasSelect = true
    · have hwe : ∀ p ∈ e.sels, p < w := hw
      have hE : ElemSpec b w e := by
        by_cases ha : e.isArr = true
        · have hde : e.inDomain = true := by rw [Ty.inDomain, if_pos ha] at hdom; exact hdom
          exact elemSpec_of_R w e ha (fun v o hv ho => scanR hb w e v o hwe hde hv ho)
        · have ha' : e.isArr = false := by simpa using ha
          rw [Ty.inDomain, if_neg ha, Bool.and_eq_true] at hdom
          exact elemSpec_of_L w e ha'
            (fun v o hv ho => scanL hb w e v o hwe (by simpa using hdom.1) hv ho)
      have hl := encArrParts_head_length e vs hwt.2 (headLenArr e vs)
      -- the element loop, wherever the heads start (after the length word, or at once)
      have run : ∀ start : Nat, At b (off + start) (encArr e vs (headLenArr e vs)) →
          ∃ lr, LocRows b lr (arrRows (.arr k e) (.arr vs)) ∧ ∀ s, WF s w →
            loopN vs.length start .single s (arrBody b e off start) = .ok (pushRows lr s) := by
        intro start hat
        rw [encArr] at hat
        obtain ⟨lr, c1, c2⟩ := arrLoop_spec hb w e hE off start vs start (headLenArr e vs) hwt.2
          hat.left (hat.right' (by omega))
        exact ⟨lr, by rw [arrRows, if_pos hsel]; exact c1, fun s hwf => c2 .single s hwf fun _ => rfl⟩
      cases k with
      | zero =>
        rw [enc] at hat
        have hbd := hat.bound
        have hge := headLenArr_ge e hsel vs
        simp only [encArr, List.length_append, word32_length, hl] at hbd
        have hn : vs.length < 2 ^ 63 := by have := hb.2; omega
        obtain ⟨lr, c1, c2⟩ := run 32 (hat.right' (by simp))
        refine ⟨[], lr, Loc.nil b, c1, fun s hwf => ?_⟩
        rw [scan_arr, hsel, show readInt b off 0 = _ from readInt_enc hb (pos := 0) hat hn]
        exact c2 s hwf
      | succ k =>
        rw [enc] at hat
        obtain ⟨lr, c1, c2⟩ := run 0 hat
        refine ⟨[], lr, Loc.nil b, c1, fun s hwf => ?_⟩
        have hvl : vs.length = k + 1 := by simpa using hwt.1
        have c3 := c2 s hwf
        rw [hvl] at c3
        rw [scan_arr, hsel]
        exact c3
    · have hsel' : e.hasSelect = false := by simpa using hsel
      refine ⟨[], [], Loc.nil b, ?_, fun s _ => by rw [scan_arr, hsel']; rfl⟩
      rw [arrRows, hsel']; exact LocRows.nil b
  | .tup fs, v, off, hw, hdom, hwt, hat => by
    cases v <;> simp only [WellTyped, Bool.false_eq_true] at hwt
    rename_i vs
    rw [enc, encTup] at hat
    have hl := encTupParts_head_length fs vs hwt (headLenTup fs)
    obtain ⟨lc, lr, h1, h2, h3⟩ := scanTupR hb w fs vs off 0 (headLenTup fs)
      hw hdom hwt
      hat.left (hat.right' (by rw [hl]))
    by_cases hsel : fs.hasSelect = true
    · refine ⟨lc, lr, by rw [leaves]; exact h1, by rw [arrRows]; exact h2, fun s hwf => ?_⟩
      rw [scan_tup, hsel]
      exact h3 s hwf
    · have hsel' : fs.hasSelect = false := by simpa using hsel
      have hs2 : (Ty.tup fs).hasSelect = false := hsel'
      refine ⟨[], [], ?_, ?_, fun s _ => by rw [scan_tup, hsel']; rfl⟩
      · rw [leaves_noselect _ _ hs2]; exact Loc.nil b
      · rw [arrRows_noselect _ _ hs2]; exact LocRows.nil b
theorem scanTupR {b : Buf} (hb : BufOK b) (w : Nat) : (fs : Tys) → (vs : Vals) → (off pos T : Nat) →
    (∀ p ∈ fs.sels, p < w) → fs.inDomain = true → wellTypedTup fs vs = true →
    At b (off + pos) (encTupParts fs vs T).1 → At b (off + T) (encTupParts fs vs T).2 →
    ∃ lc lr, Loc b lc (leavesTup fs vs) ∧ LocRows b lr (arrRowsTup fs vs) ∧
      ∀ s, WF s w → scanTup b fs off pos .single s = .ok (pushRows lr (writeCells .single lc s))
  | .nil, vs, off, pos, T, _, _, _, _, _ => by
    refine ⟨[], [], ?_, ?_, fun s _ => by rw [scanTup_nil]; rfl⟩
    · cases vs <;> exact Loc.nil b
    · cases vs <;> exact LocRows.nil b
  | .cons f fr, vs, off, pos, T, hw, hdom, hwt, hat1, hat2 => by
    cases vs with
    | nil => simp [wellTypedTup] at hwt
    | cons v vr =>
      rw [wellTypedTup, Bool.and_eq_true] at hwt
      rw [Tys.inDomain, Bool.and_eq_true] at hdom
      have hwf : ∀ p ∈ f.sels, p < w := fun p hp => hw p (List.mem_append_left _ hp)
      have hwr : ∀ p ∈ fr.sels, p < w := fun p hp => hw p (List.mem_append_right _ hp)
      rw [encTupParts_cons] at hat1 hat2
      obtain ⟨o, hc, a0, a1, a2⟩ := child_enc hb hwt.1 (start := 0) hat1 hat2
      obtain ⟨lc1, lr1, l1, r1, s1⟩ := scanR hb w f v o hwf hdom.1 hwt.1 a0
      obtain ⟨lc2, lr2, l2, r2, s2⟩ := scanTupR hb w fr vr off _ _ hwr hdom.2 hwt.2 a1 a2
      refine ⟨lc1 ++ lc2, lr1 ++ lr2, by rw [leavesTup]; exact l1.append l2,
        by rw [arrRowsTup]; exact LocRows.append r2 _ _ r1, fun s hwf => ?_⟩
      rw [scanTup_cons, show child b f off 0 pos = _ from hc, Res.bind_ok, s1 s hwf, Res.bind_ok,
        s2 _ (pushRows_spec lr1 (WF_writeCells_single hwf lc1)).1, pushRows_writeCells_seq]
end

end Shovel.Abi
