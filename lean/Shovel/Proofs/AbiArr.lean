import Shovel.Proofs.AbiScan
/-
  C09: the array loop on an encoding (`arrLoop_spec`), given what `scan` does with one element.
-/
namespace Shovel.Abi

/-- An element that is itself an array is only met in row mode, hence `r = .single` for it; any
    other element is decoded into the fresh row `elemSel` makes, and `r` is not looked at. -/
def ElemSpec (b : Buf) (w : Nat) (e : Ty) : Prop :=
  ∀ v o, WellTyped e v = true → At b o (enc e v) →
    ∃ lr, LocRows b lr (if e.isArr then arrRows e v else [leaves e v]) ∧
      ∀ r s, WF s w → (e.isArr = true → r = .single) →
        scan b e (o : Int) (elemSel e r s).2 (elemSel e r s).1 = .ok (pushRows lr s)

theorem arrLoop_spec {b : Buf} (hb : BufOK b) (w : Nat) (e : Ty) (H : ElemSpec b w e) (off start : Nat) :
    (vs : Vals) → (pos T : Nat) → wellTypedAll e vs = true →
    At b (off + pos) (encArrParts e vs T).1 → At b (off + start + T) (encArrParts e vs T).2 →
    ∃ lr, LocRows b lr (arrRowsElems e vs) ∧
      ∀ r s, WF s w → (e.isArr = true → r = .single) →
        loopN vs.length pos r s (arrBody b e off start) = .ok (pushRows lr s)
  | .nil, pos, T, _, _, _ => ⟨[], LocRows.nil b, fun r s _ _ => by rw [Vals.length, loopN]; rfl⟩
  | .cons v vr, pos, T, hwt, hat1, hat2 => by
    rw [wellTypedAll, Bool.and_eq_true] at hwt
    rw [encArrParts_cons] at hat1 hat2
    obtain ⟨o, hc, a0, a1, a2⟩ := child_enc hb hwt.1 hat1 hat2
    obtain ⟨lr1, l1, s1⟩ := H v o hwt.1 a0
    obtain ⟨lr2, l2, s2⟩ := arrLoop_spec hb w e H off start vr _ _ hwt.2 a1 a2
    refine ⟨lr1 ++ lr2, by rw [arrRowsElems]; exact LocRows.append l2 _ _ l1, fun r s hwf hr => ?_⟩
    have hr' : e.isArr = true → (elemSel e r s).2 = .single := fun ha => by
      rw [elemSel_arr ha]; exact hr ha
    rw [Vals.length, arrLoop_succ, hc, Res.bind_ok, s1 r s hwf hr, Res.bind_ok,
      s2 _ _ (pushRows_spec lr1 hwf).1 hr', pushRows_append]

theorem elemSpec_of_L {b : Buf} (w : Nat) (e : Ty) (ha : e.isArr = false)
    (hL : ∀ v o, WellTyped e v = true → At b o (enc e v) →
      ∃ lc, Loc b lc (leaves e v) ∧ ∀ r s, RowOK s r w → scan b e (o : Int) r s = .ok (writeCells r lc s)) :
    ElemSpec b w e := by
  intro v o hwt hat
  obtain ⟨lc, h1, h2⟩ := hL v o hwt hat
  refine ⟨[lc], ?_, fun r s hwf _ => ?_⟩
  · rw [ha]; exact ⟨h1, trivial⟩
  · obtain ⟨_, _, _, g4, _, g6⟩ := getRow_spec hwf
    have hrow : RowOK s.getRow.1 (.coll s.n) w := ⟨_, g4, by simp⟩
    rw [elemSel_row ha, g6, h2 _ _ hrow]
    rfl

theorem elemSpec_of_R {b : Buf} (w : Nat) (e : Ty) (ha : e.isArr = true)
    (hR : ∀ v o, WellTyped e v = true → At b o (enc e v) →
      ∃ lc lr, Loc b lc (leaves e v) ∧ LocRows b lr (arrRows e v) ∧
        ∀ s, WF s w → scan b e (o : Int) .single s = .ok (pushRows lr (writeCells .single lc s))) :
    ElemSpec b w e := by
  intro v o hwt hat
  obtain ⟨lc, lr, h1, h2, h3⟩ := hR v o hwt hat
  rw [leaves_isArr ha] at h1
  have := h1.nil_inv; subst this
  refine ⟨lr, ?_, fun r s hwf hr => ?_⟩
  · rw [if_pos ha]; exact h2
  · rw [elemSel_arr ha, hr ha, h3 s hwf]; rfl

end Shovel.Abi
