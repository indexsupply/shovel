import Shovel.Spec.AbiDecl
/-
  Helper lemmas for C09 `parse_correct` / C13 `sig_canonical`.
  `Input.Signature` and `Input.ABIType` both commute with an array layer `T ↦ T[k]` on ANY type
  string (`signature_layer`; `abiType_layer`: any non-empty one), so each theorem is a plain
  structural induction over the specification type: elementary name, tuple, one more array layer.
-/
namespace Shovel.Abi

theorem hasPrefix_self (p : List Char) : hasPrefix p p = true := by simp [hasPrefix]

theorem hasPrefix_append_bracket {p n r : List Char} (hp : '[' ∉ p) :
    hasPrefix p (n ++ '[' :: r) = hasPrefix p n := by
  unfold hasPrefix
  induction p generalizing n with
  | nil => simp
  | cons c p ih =>
    simp only [List.mem_cons, not_or] at hp
    cases n with
    | nil =>
      have : (c == '[') = false := by simpa using Ne.symm hp.1
      simp [List.isPrefixOf_cons_cons, this]
    | cons d n => simp only [List.cons_append, List.isPrefixOf_cons_cons, ih hp.2]

theorem takeWhile_append_bracket (d r : List Char) :
    (d ++ '[' :: r).takeWhile (· ≠ '[') = d.takeWhile (· ≠ '[') := by
  fun_induction List.takeWhile (· ≠ '[') d with
  | case1 => rfl
  | case2 c d hc ih => rw [List.cons_append, List.takeWhile, hc, ih]
  | case3 c d hc => rw [List.cons_append, List.takeWhile, hc]

theorem takeWhile_of_not_mem (d : List Char) (hd : '[' ∉ d) : d.takeWhile (· ≠ '[') = d := by
  induction d with
  | nil => rfl
  | cons c d ih =>
    simp only [List.mem_cons, not_or] at hd
    simpa [Ne.symm hd.1] using ih hd.2

theorem contains_eq_false {c : Char} {l : List Char} (h : c ∉ l) : l.contains c = false := by
  simpa using h

theorem replaceFirst_prefix (old new suf : List Char) :
    replaceFirst (old ++ suf) old new = new ++ suf := by
  unfold replaceFirst
  split
  · rename_i h
    rw [List.isEmpty_iff.1 h, List.nil_append]
  · unfold replaceFirst.go
    simp [List.isPrefixOf_iff_prefix]

theorem atoi_foldl_digits (f : Option Nat → Char → Option Nat)
    (hf : ∀ n c, c.isDigit = true → f (some n) c = some (n * 10 + (c.toNat - 48)))
    (cs : List Char) (n : Nat) (h : ∀ c ∈ cs, c.isDigit = true) :
    cs.foldl f (some n) = some (Nat.ofDigitChars 10 cs n) := by
  induction cs generalizing n with
  | nil => simp
  | cons c cs ih =>
    have hc : c.isDigit = true := h c (by simp)
    simp only [List.foldl_cons, hf n c hc]
    rw [ih _ (fun c hc => h c (by simp [hc]))]
    simp [Nat.ofDigitChars_cons, Nat.mul_comm]

theorem isDigit_of_mem_decimal {k : Nat} {c : Char} (h : c ∈ decimal k) : c.isDigit = true :=
  Nat.isDigit_of_mem_toDigits (by decide) (by decide) h

theorem decimal_ne_nil (k : Nat) : decimal k ≠ [] := Nat.toDigits_ne_nil

theorem atoi_decimal (k : Nat) : atoi (decimal k) = some k := by
  unfold atoi
  rw [if_neg (by simpa using decimal_ne_nil k),
    atoi_foldl_digits _ (fun n c hc => by simp [hc]) _ _ (fun c => isDigit_of_mem_decimal)]
  simp [decimal]

theorem bracket_not_mem_decimal (k : Nat) : '[' ∉ decimal k :=
  fun h => by simpa [Char.isDigit] using isDigit_of_mem_decimal h

theorem rbracket_not_mem_decimal (k : Nat) : ']' ∉ decimal k :=
  fun h => by simpa [Char.isDigit] using isDigit_of_mem_decimal h

def dimDigits (k : Nat) : List Char := if k = 0 then [] else decimal k

theorem dimSuffix_eq (k : Nat) : dimSuffix k = '[' :: dimDigits k ++ [']'] := by
  unfold dimSuffix dimDigits; split <;> simp

theorem bracket_not_mem_dimDigits (k : Nat) : '[' ∉ dimDigits k := by
  unfold dimDigits; split
  · simp
  · exact bracket_not_mem_decimal k

/-- the `num` string the Go loop collects -/
def numOf (s : List Char) : List Char :=
  ((((s.take (s.length - 1)).drop 1).reverse.takeWhile (· ≠ '[')).reverse)

theorem parseArray_succ (fuel : Nat) (elm : Ty) (s : List Char) :
    parseArray (fuel + 1) elm s =
      if !s.contains ']' then .ok elm
      else if s.length < 2 then .panic
      else if (numOf s).isEmpty then
        match parseArray fuel elm (s.take (s.length - 2)) with
        | .ok e => .ok (.arr 0 e)
        | r => r
      else
        match atoi (numOf s) with
        | none => .panic
        | some k =>
          if s.length < (numOf s).length + 2 then .panic
          else match parseArray fuel elm (s.take (s.length - (numOf s).length - 2)) with
            | .ok e => .ok (.arr k e)
            | r => r := by
  rw [parseArray]; rfl

theorem parseArray_plain (fuel : Nat) (elm : Ty) (s : List Char) (h : ']' ∉ s) :
    parseArray (fuel + 1) elm s = .ok elm := by
  rw [parseArray_succ, contains_eq_false h]; rfl

/-- any fuel above the length will do: every call drops at least two characters -/
theorem parseArray_fuel (elm : Ty) : ∀ (fuel fuel' : Nat) (s : List Char), s.length < fuel → s.length < fuel' →
    parseArray fuel elm s = parseArray fuel' elm s
  | 0, _, _, h, _ => by omega
  | _ + 1, 0, _, _, h => by omega
  | fuel + 1, fuel' + 1, s, h, h' => by
    rw [parseArray_succ, parseArray_succ]
    by_cases hl : s.length < 2
    · rw [if_pos hl, if_pos hl]
    · have key : ∀ n, n ≤ s.length - 2 → parseArray fuel elm (s.take n) = parseArray fuel' elm (s.take n) :=
        fun n hn => parseArray_fuel elm fuel fuel' _
          (Nat.lt_of_le_of_lt (List.length_take_le _ _) (by omega))
          (Nat.lt_of_le_of_lt (List.length_take_le _ _) (by omega))
      rw [key _ (Nat.le_refl _), key _ (by omega)]

theorem numOf_append (s d : List Char) (hs : s ≠ []) (hd : '[' ∉ d) :
    numOf (s ++ '[' :: d ++ [']']) = d := by
  unfold numOf
  have e1 : s ++ '[' :: d ++ [']'] = (s ++ '[' :: d) ++ [']'] := by simp
  rw [e1]
  have e2 : ((s ++ '[' :: d) ++ [']']).length - 1 = (s ++ '[' :: d).length := by simp
  rw [e2, List.take_left']
  · cases s with
    | nil => exact absurd rfl hs
    | cons c s =>
      simp only [List.cons_append, List.drop_succ_cons, List.drop_zero, List.reverse_append,
        List.reverse_cons, List.append_assoc]
      rw [takeWhile_append_bracket, takeWhile_of_not_mem _ (by simpa using hd)]
      simp
  · rfl

/-- `hs`: the Go loop `for i := len(s)-2; i != 0; i--` never looks at `s[0]`, so the `[` of the
    layer must not stand there -/
theorem parseArray_step {fuel : Nat} {elm : Ty} {s : List Char} {k : Nat} (hs : s ≠ []) :
    parseArray (fuel + 1) elm (s ++ dimSuffix k) =
      match parseArray fuel elm s with
      | .ok e => .ok (.arr k e)
      | r => r := by
  rw [parseArray_succ, dimSuffix_eq, ← List.append_assoc,
    numOf_append s (dimDigits k) hs (bracket_not_mem_dimDigits k)]
  have hl : (s ++ '[' :: dimDigits k ++ [']']).length = s.length + (dimDigits k).length + 2 := by
    simp; omega
  have ht : ∀ (d : List Char) n, n = s.length → (s ++ '[' :: d ++ [']']).take n = s := by
    rintro d _ rfl
    rw [List.append_assoc, List.take_left']; rfl
  rw [hl, if_neg (by simp), if_neg (by omega)]
  by_cases hk : k = 0
  · subst hk
    rw [show dimDigits 0 = [] from rfl, if_pos List.isEmpty_nil, ht _ _ (by simp)]
  · rw [show dimDigits k = decimal k from if_neg hk, if_neg (by simpa using decimal_ne_nil k),
      atoi_decimal]
    simp only []
    rw [if_neg (by omega), ht _ _ (by omega)]

/- the three prefixes as character lists: checked by the kernel without running the UTF-8 decoder
   (a string literal IS `String.ofList` of its characters), which `decide` on `"…".toList` would do -/
theorem bytesP_eq : bytesP = ['b', 'y', 't', 'e', 's'] := String.toList_ofList
theorem stringP_eq : stringP = ['s', 't', 'r', 'i', 'n', 'g'] := String.toList_ofList
theorem tupleP_eq : tupleP = ['t', 'u', 'p', 'l', 'e'] := String.toList_ofList

theorem bracket_not_mem_tupleP : '[' ∉ tupleP := by rw [tupleP_eq]; decide
theorem bracket_not_mem_bytesP : '[' ∉ bytesP := by rw [bytesP_eq]; decide
theorem bracket_not_mem_stringP : '[' ∉ stringP := by rw [stringP_eq]; decide

theorem nameOK_parts {n : List Char} (h : nameOK n = true) :
    '[' ∉ n ∧ ']' ∉ n ∧ hasPrefix tupleP n = false ∧
    (hasPrefix stringP n = true → n = stringP) ∧ n ≠ [] := by
  unfold nameOK at h
  simp only [Bool.and_eq_true, Bool.not_eq_true', Bool.or_eq_true, beq_iff_eq] at h
  obtain ⟨⟨⟨⟨h1, h2⟩, h3⟩, h4⟩, h5⟩ := h
  refine ⟨by simpa using h1, by simpa using h2, h3, ?_, ?_⟩
  · intro hp; rcases h4 with h4 | h4
    · rw [hp] at h4; cases h4
    · exact h4
  · intro h; subst h; simp at h5

/-- Go's prefix tests in `Input.ABIType` (`HasPrefix(t, "bytes")` with the exact-name check, then
    `HasPrefix(t, "string")`) agree with `isDynName` on `nameOK` names -/
theorem classify (n : List Char) (s : Option Nat) (h : nameOK n = true) :
    (if hasPrefix bytesP n then (if n = bytesP then Ty.dyn s else Ty.stat s)
      else if hasPrefix stringP n then Ty.dyn s else Ty.stat s)
    = if isDynName n then Ty.dyn s else Ty.stat s := by
  obtain ⟨_, _, _, h4, _⟩ := nameOK_parts h
  have hd : isDynName n = (n == bytesP || n == stringP) := rfl
  by_cases hb : n = bytesP
  · rw [hd, hb, hasPrefix_self]; simp
  · by_cases hs : n = stringP
    · have : hasPrefix bytesP stringP = false := by rw [bytesP_eq, stringP_eq]; decide
      rw [hd, hs, this, hasPrefix_self]; simp
    · have h5 : hasPrefix stringP n = false := by
        cases h6 : hasPrefix stringP n with
        | false => rfl
        | true => exact absurd (h4 h6) hs
      simp [hd, hb, hs, h5]

theorem STy.toInp_elem (n : List Char) (s ix : Bool) : (STy.elem n s).toInp ix = .mk ix s n .nil := by
  simp [STy.toInp, STy.typeString, STy.baseName, STy.suffix, STy.baseSel, STy.compsOf]

theorem STy.toInp_tuple (fs : STys) (ix : Bool) :
    (STy.tuple fs).toInp ix = .mk ix false tupleP (STys.toInps fs) := by
  rw [STy.toInp, STy.typeString, show (STy.tuple fs).suffix = [] from rfl, List.append_nil]; rfl

theorem STy.toInp_arr (k : Nat) (e : STy) (ix : Bool) :
    (STy.arr k e).toInp ix = .mk ix e.baseSel (e.typeString ++ dimSuffix k) (STy.compsOf e) := by
  simp [STy.toInp, STy.typeString, STy.baseName, STy.suffix, STy.baseSel, STy.compsOf]

theorem STys.toInps_cons (t : STy) (ts : STys) :
    STys.toInps (.cons t ts) = .cons (STy.toInp false t) (STys.toInps ts) := rfl
theorem STys.toInps_nil : STys.toInps .nil = .nil := rfl

theorem STy.wf_tuple {fs : STys} (h : (STy.tuple fs).wf = true) :
    (STys.toInps fs).isEmpty = false ∧ fs.wf = true := by
  rw [STy.wf] at h
  simpa using h

theorem STys.wf_cons {t : STy} {ts : STys} (h : (STys.cons t ts).wf = true) :
    t.wf = true ∧ ts.wf = true := by
  rw [STys.wf] at h
  simpa using h

theorem signature_layer (ix sel : Bool) (ty : List Char) (comps : Inps) (k : Nat) :
    Inp.signature (.mk ix sel (ty ++ dimSuffix k) comps) =
      Inp.signature (.mk ix sel ty comps) ++ dimSuffix k := by
  rw [Inp.signature, Inp.signature, dimSuffix_eq, List.cons_append,
    hasPrefix_append_bracket bracket_not_mem_tupleP]
  cases h : hasPrefix tupleP ty with
  | false => rfl
  | true =>
    obtain ⟨r, rfl⟩ := List.isPrefixOf_iff_prefix.1 h
    simp only [Bool.not_true, Bool.false_eq_true, if_false]
    rw [List.append_assoc, replaceFirst_prefix, replaceFirst_prefix]
    simp only [List.append_assoc, List.cons_append]

mutual
/-- `input_signature_canonical` in Props/C13 -/
theorem sig_full : (t : STy) → (ix : Bool) → t.wf = true → Inp.signature (t.toInp ix) = t.canon
  | .elem n s, ix, hwf => by
    rw [STy.wf] at hwf
    rw [STy.toInp_elem, Inp.signature, (nameOK_parts hwf).2.2.1, STy.canon]; rfl
  | .tuple fs, ix, hwf => by
    have h := replaceFirst_prefix tupleP ('(' :: Inps.signatures (STys.toInps fs) ++ [')']) []
    rw [List.append_nil, List.append_nil] at h
    rw [STy.toInp_tuple, Inp.signature, hasPrefix_self, h, sigAll fs (STy.wf_tuple hwf).2, STy.canon]; rfl
  | .arr k e, ix, hwf => by
    rw [STy.wf] at hwf
    rw [STy.toInp_arr, signature_layer, STy.canon, ← sig_full e ix hwf]; rfl
theorem sigAll : (ts : STys) → ts.wf = true → Inps.signatures (STys.toInps ts) = STys.canon ts
  | .nil, _ => by simp [STys.toInps_nil, Inps.signatures, STys.canon]
  | .cons t .nil, hwf => by
    simp only [STys.toInps_cons, STys.toInps_nil, Inps.signatures, STys.canon]
    exact sig_full t false (STys.wf_cons hwf).1
  | .cons t (.cons t' ts), hwf => by
    have ih := sigAll (.cons t' ts) (STys.wf_cons hwf).2
    rw [STys.toInps_cons] at ih
    rw [STys.toInps_cons, STys.toInps_cons, Inps.signatures, STys.canon, ih,
      sig_full t false (STys.wf_cons hwf).1]
    all_goals (intro h; cases h)
end

theorem sig_decl (ds : List (Bool × STy)) (hwf : ∀ d ∈ ds, d.2.wf = true) :
    Inps.signatures (declInps ds) = declCanon ds := by
  fun_induction declCanon ds with
  | case1 => rw [declInps, Inps.signatures]
  | case2 ix t =>
    rw [declInps, declInps, Inps.signatures]
    exact sig_full t ix (hwf (ix, t) (by simp))
  | case3 ix t rest hne ih =>
    obtain ⟨d, rest, rfl⟩ := List.exists_cons_of_ne_nil hne
    have ih := ih fun d hd => hwf d (by simp [hd])
    rw [declInps] at ih
    rw [declInps, declInps, Inps.signatures, ih, sig_full t ix (hwf (ix, t) (by simp))]
    all_goals (intro h; cases h)

theorem two_le_length_dimSuffix (k : Nat) : 2 ≤ (dimSuffix k).length := by
  rw [dimSuffix_eq]; simp

/-- `hty`: see `parseArray_step` -/
theorem abiType_layer {ix sel : Bool} {ty : List Char} {comps : Inps} {k pos : Nat} (hty : ty ≠ []) :
    Inp.abiType (.mk ix sel (ty ++ dimSuffix k) comps) pos =
      match Inp.abiType (.mk ix sel ty comps) pos with
      | .ok (p, t) => .ok (p, .arr k t)
      | r => r := by
  have hp : ∀ elm, parseArray ((ty ++ dimSuffix k).length + 1) elm (ty ++ dimSuffix k) =
      match parseArray (ty.length + 1) elm ty with
      | .ok e => .ok (.arr k e)
      | r => r := fun elm => by
    have := two_le_length_dimSuffix k
    rw [parseArray_step hty,
      parseArray_fuel elm _ (ty.length + 1) ty (by rw [List.length_append]; omega) (by omega)]
  cases comps with
  | nil =>
    rw [Inp.abiType, Inp.abiType]
    simp only [hp]
    rw [dimSuffix_eq, List.cons_append, hasPrefix_append_bracket bracket_not_mem_bytesP,
      hasPrefix_append_bracket bracket_not_mem_stringP, beforeBracket, beforeBracket,
      takeWhile_append_bracket]
    generalize parseArray (ty.length + 1) _ ty = r
    cases r <;> rfl
  | cons i is =>
    rw [Inp.abiType, Inp.abiType]
    simp only [hp]
    cases Inps.abiTypes (.cons i is) pos with
    | ok x =>
      obtain ⟨pos1, fs⟩ := x
      simp only []
      generalize parseArray (ty.length + 1) _ ty = r
      cases r <;> rfl
    | err => rfl
    | panic => rfl
    | overread => rfl

theorem STy.typeString_ne_nil (t : STy) (hwf : t.wf = true) : t.typeString ≠ [] := by
  unfold STy.typeString
  cases t with
  | elem n s =>
    rw [STy.wf] at hwf
    simpa [STy.baseName] using fun h => absurd h (nameOK_parts hwf).2.2.2.2
  | tuple fs =>
    have : tupleP ≠ [] := by rw [tupleP_eq]; decide
    rw [show (STy.tuple fs).baseName = tupleP from rfl]
    simpa using fun h => absurd h this
  | arr k e =>
    have := two_le_length_dimSuffix k
    intro h
    rw [STy.suffix, ← List.append_assoc, List.append_eq_nil_iff] at h
    rw [h.2] at this
    simp at this

theorem abiType_tuple {ix sel : Bool} {type : List Char} {comps : Inps} {pos pos1 : Nat}
    {fs : Tys} {t' : Ty} (hne : comps.isEmpty = false)
    (h1 : Inps.abiTypes comps pos = .ok (pos1, fs))
    (h2 : parseArray (type.length + 1) (.tup fs) type = .ok t') :
    Inp.abiType (.mk ix sel type comps) pos = .ok (if sel then pos1 + 1 else pos1, t') := by
  cases comps with
  | nil => simp [Inps.isEmpty] at hne
  | cons i is =>
    rw [Inp.abiType]
    simp only [h1, h2]

theorem STys.expect_cons (pos : Nat) (t : STy) (ts : STys) :
    STys.expect pos (.cons t ts) =
      ((STys.expect (STy.expect pos t).1 ts).1,
       .cons (STy.expect pos t).2 (STys.expect (STy.expect pos t).1 ts).2) := by
  rw [STys.expect]

theorem abiTypes_cons {i : Inp} {is : Inps} {pos pos1 pos2 : Nat} {t : Ty} {ts : Tys}
    (h1 : Inp.abiType i pos = .ok (pos1, t)) (h2 : Inps.abiTypes is pos1 = .ok (pos2, ts)) :
    Inps.abiTypes (.cons i is) pos = .ok (pos2, .cons t ts) := by
  rw [Inps.abiTypes]
  simp only [h1, h2]

mutual
/-- `input_abiType_correct` in Props/C13 -/
theorem abiType_full : (t : STy) → (ix : Bool) → (pos : Nat) → t.wf = true →
    Inp.abiType (t.toInp ix) pos = .ok (STy.expect pos t)
  | .elem n s, ix, pos, hwf => by
    rw [STy.wf] at hwf
    obtain ⟨h1, h2, _, _, _⟩ := nameOK_parts hwf
    rw [STy.toInp_elem, Inp.abiType]
    simp only [beforeBracket, takeWhile_of_not_mem n h1, classify n _ hwf, parseArray_plain _ _ n h2]
    rfl
  | .tuple fs, ix, pos, hwf => by
    rw [STy.toInp_tuple, abiType_tuple (STy.wf_tuple hwf).1
      (parseAll fs (STy.wf_tuple hwf).2 pos) (parseArray_plain _ _ _ (by rw [tupleP_eq]; decide))]
    rfl
  | .arr k e, ix, pos, hwf => by
    rw [STy.wf] at hwf
    have ih := abiType_full e ix pos hwf
    rw [STy.toInp] at ih
    rw [STy.toInp_arr, abiType_layer (STy.typeString_ne_nil e hwf), ih]
    rfl
theorem parseAll : (ts : STys) → ts.wf = true →
    ∀ pos, Inps.abiTypes (STys.toInps ts) pos = .ok (STys.expect pos ts)
  | .nil, _, pos => by rw [STys.toInps_nil, Inps.abiTypes, STys.expect]
  | .cons t ts, hwf, pos => by
    rw [STys.toInps_cons, STys.expect_cons]
    exact abiTypes_cons
      (abiType_full t false pos (STys.wf_cons hwf).1) (parseAll ts (STys.wf_cons hwf).2 _)
end

theorem toInp_indexed (t : STy) (ix : Bool) : (t.toInp ix).indexed = ix := by
  rw [STy.toInp, Inp.indexed]

end Shovel.Abi
