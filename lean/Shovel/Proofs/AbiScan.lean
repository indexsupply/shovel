import Shovel.Proofs.AbiLayout
import Shovel.Proofs.AbiState
import Shovel.Proofs.AbiRowRule
/-
  C09: the steps of `scan` on a buffer that holds an encoding (`putSel_enc`, `child_enc`), and
  `scan` in array-free ("leaf") mode, `scanL`: the selected leaves of a value without row-creating
  arrays are written into the row `r`.
-/
namespace Shovel.Abi

theorem putSel_enc {b : Buf} (hb : BufOK b) {off : Nat} (a hi : Nat) (h1 : a ≤ hi)
    (h2 : off + hi ≤ b.data.length) {sel : Option Nat} {r : RowRef} {s : St} {w : Nat}
    (hr : RowOK s r w) (hp : ∀ p ∈ sel, p < w) :
    putSel b off a hi sel r s = .ok (writeCells r (selCell sel (off + a) (off + hi)) s) := by
  cases sel with
  | none => rfl
  | some p =>
    rw [putSel, slice_nat hb off a hi h1 h2, Res.bind_ok]
    exact setCol_eq _ hr (hp p rfl)

/-- A member of a tuple or array whose head is at `pos` and whose tail, if it has one, is at
    `start + T`: `child` finds its encoding, and the remaining heads and tails follow. -/
theorem child_enc {b : Buf} (hb : BufOK b) {f : Ty} {v : Val} (hwt : WellTyped f v = true)
    {off start pos T : Nat} {H Tl : List Nat}
    (h1 : At b (off + pos) (headOf f v T ++ H)) (h2 : At b (off + start + T) (tailOf f v ++ Tl)) :
    ∃ o : Nat, child b f off start pos = .ok ((o : Int), ((pos + f.headSize : Nat) : Int)) ∧
      At b o (enc f v) ∧ At b (off + (pos + f.headSize)) H ∧
      At b (off + start + (T + (tailOf f v).length)) Tl := by
  by_cases hs : f.isStatic = true
  · have hbd := h1.bound
    rw [headOf, if_pos hs] at h1 hbd
    rw [List.length_append, enc_static_length f v hs hwt] at hbd
    simp only [tailOf, Ty.headSize, if_pos hs, List.nil_append, List.length_nil, Nat.add_zero] at h2 ⊢
    refine ⟨off + pos, ?_, h1.left, h1.right' (by rw [enc_static_length f v hs hwt]; omega), h2⟩
    rw [child, if_pos hs, if_neg (not_len_lt (by omega)), sliceFrom_nat off pos (by omega),
      Res.bind_ok, Int.natCast_add, Int.natCast_add]
  · have hbd := h1.bound
    have hbd2 := h2.bound
    rw [headOf, if_neg hs] at h1 hbd
    simp only [tailOf, Ty.headSize, if_neg hs] at h2 hbd2 ⊢
    simp only [List.length_append, word32_length] at hbd hbd2
    have hT : T < 2 ^ 63 := by have := hb.2; omega
    refine ⟨off + start + T, ?_, h2.left, h1.right' (by simp; omega), h2.right' (by omega)⟩
    have h0 : ¬ ((T : Int) < 0 ∨ b.len off - (start : Int) < (T : Int)) := by rw [len_eq]; omega
    have h3 : b.sliceFrom (off : Int) ((start : Int) + (T : Int)) = .ok ((off + start + T : Nat) : Int) := by
      rw [Nat.add_assoc]; exact sliceFrom_nat off (start + T) (by omega)
    rw [child, if_neg hs, readInt_enc hb h1 hT, Res.bind_ok, if_neg h0, h3, Res.bind_ok,
      Int.natCast_add]
    rfl

theorem scanL_stat {b : Buf} (hb : BufOK b) (w : Nat) (sel : Option Nat) (v : Val) (off : Nat)
    (hw : ∀ p ∈ (Ty.stat sel).sels, p < w) (hwt : WellTyped (.stat sel) v = true)
    (hat : At b off (enc (.stat sel) v)) :
    ∃ lc, Loc b lc (leaves (.stat sel) v) ∧
      ∀ r s, RowOK s r w → scan b (.stat sel) off r s = .ok (writeCells r lc s) := by
  cases v <;> simp only [WellTyped, Bool.false_eq_true] at hwt
  rename_i wd
  have hl : wd.length = 32 := by simp at hwt; exact hwt.1
  rw [enc] at hat
  have hbd := hat.bound
  refine ⟨selCell sel (off + 0) (off + 32), ?_, fun r s hr => ?_⟩
  · have : leaves (.stat sel) (.word wd) = sel.toList.map fun p => (p, wd) := by cases sel <;> rfl
    rw [this]
    exact Loc.sel sel (hat.read' (by omega)) (by intro h; rw [h] at hl; simp at hl)
  · rw [scan_stat, len_eq, if_neg (by omega)]
    exact putSel_enc hb 0 32 (by omega) (by omega) hr fun p hp => hw p (Option.mem_toList.mpr hp)

theorem scanL_dyn {b : Buf} (hb : BufOK b) (w : Nat) (sel : Option Nat) (v : Val) (off : Nat)
    (hw : ∀ p ∈ (Ty.dyn sel).sels, p < w) (hwt : WellTyped (.dyn sel) v = true)
    (hat : At b off (enc (.dyn sel) v)) :
    ∃ lc, Loc b lc (leaves (.dyn sel) v) ∧
      ∀ r s, RowOK s r w → scan b (.dyn sel) off r s = .ok (writeCells r lc s) := by
  cases v <;> simp only [WellTyped, Bool.false_eq_true] at hwt
  rename_i bs
  rw [enc] at hat
  rw [padTo32] at hat
  have hbd := hat.bound
  simp only [List.length_append, word32_length] at hbd
  have hn : bs.length < 2 ^ 63 := by have := hb.2; omega
  have hrd : readInt b off 0 = .ok (bs.length : Int) := readInt_enc hb (pos := 0) hat hn
  by_cases h0 : bs.length = 0
  · refine ⟨[], ?_, fun r s _ => by rw [scan_dyn, hrd, Res.bind_ok, if_pos (by omega)]; rfl⟩
    have : bs = [] := List.eq_nil_of_length_eq_zero h0
    subst this
    cases sel <;> rfl
  · refine ⟨selCell sel (off + 32) (off + (32 + bs.length)), ?_, fun r s hr => ?_⟩
    · have : leaves (.dyn sel) (.bytes bs) = sel.toList.map fun p => (p, bs) := by cases sel <;> rfl
      rw [this]
      have h1 : At b (off + 32) bs := (hat.right' (by simp)).left
      exact Loc.sel sel (h1.read' (by omega)) (by intro h; rw [h] at h0; simp at h0)
    · rw [scan_dyn, hrd, Res.bind_ok, if_neg (by omega), len_eq, if_neg (by omega)]
      exact putSel_enc hb 32 (32 + bs.length) (by omega) (by omega) hr fun p hp => hw p (Option.mem_toList.mpr hp)

mutual
/-- leaf mode (`L`): no selected array below, so no row is created and `r` is any row -/
theorem scanL {b : Buf} (hb : BufOK b) (w : Nat) : (t : Ty) → (v : Val) → (off : Nat) →
    (∀ p ∈ t.sels, p < w) → t.hasSelectedArr = false → WellTyped t v = true →
    At b off (enc t v) →
    ∃ lc, Loc b lc (leaves t v) ∧ ∀ r s, RowOK s r w → scan b t off r s = .ok (writeCells r lc s)
  | .stat sel, v, off, hw, _, hwt, hat => scanL_stat hb w sel v off hw hwt hat
  | .dyn sel, v, off, hw, _, hwt, hat => scanL_dyn hb w sel v off hw hwt hat
  | .arr k e, v, off, _, hns, _, _ => by
    have hns' : e.hasSelect = false := hns
    refine ⟨[], ?_, fun r s _ => ?_⟩
    · cases v <;> exact Loc.nil b
    · rw [scan_arr, hns']; rfl
  | .tup fs, v, off, hw, hns, hwt, hat => by
    cases v <;> simp only [WellTyped, Bool.false_eq_true] at hwt
    rename_i vs
    by_cases hsel : fs.hasSelect = true
    · rw [enc, encTup] at hat
      have hl := encTupParts_head_length fs vs hwt (headLenTup fs)
      obtain ⟨lc, h1, h2⟩ := scanTupL hb w fs vs off 0 (headLenTup fs)
        hw hns hwt
        hat.left (hat.right' (by rw [hl]))
      refine ⟨lc, by rw [leaves]; exact h1, fun r s hr => ?_⟩
      rw [scan_tup, hsel]
      exact h2 r s hr
    · have hsel' : fs.hasSelect = false := by simpa using hsel
      refine ⟨[], ?_, fun r s _ => by rw [scan_tup, hsel']; rfl⟩
      rw [leaves_noselect (.tup fs) (.tup vs) hsel']
      exact Loc.nil b
theorem scanTupL {b : Buf} (hb : BufOK b) (w : Nat) : (fs : Tys) → (vs : Vals) → (off pos T : Nat) →
    (∀ p ∈ fs.sels, p < w) → fs.hasSelectedArr = false → wellTypedTup fs vs = true →
    At b (off + pos) (encTupParts fs vs T).1 → At b (off + T) (encTupParts fs vs T).2 →
    ∃ lc, Loc b lc (leavesTup fs vs) ∧
      ∀ r s, RowOK s r w → scanTup b fs off pos r s = .ok (writeCells r lc s)
  | .nil, vs, off, pos, T, _, _, _, _, _ => by
    refine ⟨[], ?_, fun r s _ => by rw [scanTup_nil]; rfl⟩
    cases vs <;> exact Loc.nil b
  | .cons f fr, vs, off, pos, T, hw, hns, hwt, hat1, hat2 => by
    cases vs with
    | nil => simp [wellTypedTup] at hwt
    | cons v vr =>
      rw [wellTypedTup, Bool.and_eq_true] at hwt
      rw [Tys.hasSelectedArr, Bool.or_eq_false_iff] at hns
      have hwf : ∀ p ∈ f.sels, p < w := fun p hp => hw p (List.mem_append_left _ hp)
      have hwr : ∀ p ∈ fr.sels, p < w := fun p hp => hw p (List.mem_append_right _ hp)
      rw [encTupParts_cons] at hat1 hat2
      obtain ⟨o, hc, a0, a1, a2⟩ := child_enc hb hwt.1 (start := 0) hat1 hat2
      obtain ⟨lc1, l1, s1⟩ := scanL hb w f v o hwf hns.1 hwt.1 a0
      obtain ⟨lc2, l2, s2⟩ := scanTupL hb w fr vr off _ _ hwr hns.2 hwt.2 a1 a2
      refine ⟨lc1 ++ lc2, by rw [leavesTup]; exact l1.append l2, fun r s hr => ?_⟩
      rw [scanTup_cons, show child b f off 0 pos = _ from hc, Res.bind_ok, s1 r s hr, Res.bind_ok,
        s2 r _ (RowOK_writeCells lc1 hr), writeCells_append]
end

end Shovel.Abi
