import Shovel.Props.World

/-! C04 lifted from one step to every interleaving: a SCHEDULE is any finite sequence of steps, each
    by any task, against any source answers, with or without a fault. -/
namespace Shovel.World

structure SStep where
  task : Task
  script : Script
  fault : Option Pos

/-- the committed state after a schedule (a faulted step's `db` is what it left committed) -/
def runSched (db : DB) (steps : List SStep) : DB :=
  steps.foldl (fun d s => (converge s.task d s.script s.fault).db) db

/-- every committed state a schedule passes through, including those committed mid-step -/
def visited (db : DB) : List SStep → List DB
  | [] => [db]
  | s :: rest =>
    let r := converge s.task db s.script s.fault
    db :: (match r.mid with | some m => [m] | none => []) ++ visited r.db rest

/-- two tasks are different (source, integration) pairs -/
def otherPair (t u : Task) : Prop := ¬ (u.src = t.src ∧ u.ig = t.ig)

theorem other_stamp {t u : Task} (h : otherPair t u) : (t.src == u.src && t.ig == u.ig) = false := by
  rw [Bool.and_eq_false_iff, beq_eq_false_iff_ne, beq_eq_false_iff_ne]
  by_cases h1 : t.src = u.src
  · exact .inr fun h2 => h ⟨h1.symm, h2.symm⟩
  · exact .inl h1

theorem mine_of_other {t u : Task} (h : otherPair t u) (x : TRow) (hx : mine t x = true) : (!mine u x) = true := by
  simp only [mine, Bool.and_eq_true, beq_iff_eq] at hx
  simp [mine, Bool.and_assoc, hx.1.2, hx.2, other_stamp h]

theorem mineC_of_other {t u : Task} (h : otherPair t u) (x : Cur) (hx : mineC t x = true) : (!mineC u x) = true := by
  simp only [mineC, Bool.and_eq_true, beq_iff_eq] at hx
  simp [mineC, hx.1, hx.2, other_stamp h]

theorem step_other (t u : Task) (h : otherPair t u) (db : DB) (sc : Script) (f : Option Pos) :
    let r := converge u db sc f
    (r.db.rows.filter (mine t) = db.rows.filter (mine t) ∧ r.db.cur.filter (mineC t) = db.cur.filter (mineC t)) ∧
    (∀ m, r.mid = some m → m.rows.filter (mine t) = db.rows.filter (mine t) ∧ m.cur.filter (mineC t) = db.cur.filter (mineC t)) := by
  intro r
  obtain ⟨hc, hr, hm⟩ := frame u db sc f
  refine ⟨⟨filter_of_filter_eq (mine_of_other h) hr, filter_of_filter_eq (mineC_of_other h) hc⟩, ?_⟩
  intro m hmid
  obtain ⟨hc', hr'⟩ := hm m hmid
  exact ⟨filter_of_filter_eq (mine_of_other h) hr', filter_of_filter_eq (mineC_of_other h) hc'⟩

/-- **isolation_schedule** (C04): however many steps the OTHER pairs take — in any
    order, with any source answers (reorgs included), faulted anywhere or not, sharing this pair's
    table and source or not — every committed state the schedule passes through (also the ones
    committed in the middle of a step) holds exactly this pair's original rows and positions. -/
theorem isolation_schedule (t : Task) (steps : List SStep) (db : DB)
    (h : ∀ s ∈ steps, otherPair t s.task) :
    ∀ v ∈ visited db steps, v.rows.filter (mine t) = db.rows.filter (mine t) ∧ v.cur.filter (mineC t) = db.cur.filter (mineC t) := by
  induction steps generalizing db with
  | nil => intro v hv; simp [visited] at hv; subst hv; exact ⟨rfl, rfl⟩
  | cons s rest ih =>
    intro v hv
    obtain ⟨hfin, hmid⟩ := step_other t s.task (h s (by simp)) db s.script s.fault
    simp only [visited, List.cons_append, List.mem_cons, List.mem_append] at hv
    rcases hv with rfl | hv | hv
    · exact ⟨rfl, rfl⟩
    · cases hm : (converge s.task db s.script s.fault).mid with
      | none => rw [hm] at hv; simp at hv
      | some m' => rw [hm] at hv; simp at hv; subst hv; exact hmid _ hm
    · obtain ⟨a, b⟩ := ih (converge s.task db s.script s.fault).db (fun s' hs' => h s' (by simp [hs'])) v hv
      exact ⟨a.trans hfin.1, b.trans hfin.2⟩

theorem runSched_visited (db : DB) (steps : List SStep) : runSched db steps ∈ visited db steps := by
  induction steps generalizing db with
  | nil => simp [runSched, visited]
  | cons s rest ih =>
    simp only [runSched, List.foldl_cons, visited, List.cons_append, List.mem_cons, List.mem_append]
    exact Or.inr (Or.inr (ih _))

/-- **interleaving_irrelevant** (C04): this pair's own step, taken after ANY schedule of the other
    pairs, starts from exactly the rows and positions it would have found with no other pair running. -/
theorem interleaving_irrelevant (t : Task) (steps : List SStep) (db : DB) (h : ∀ s ∈ steps, otherPair t s.task) :
    (runSched db steps).rows.filter (mine t) = db.rows.filter (mine t) ∧
    (runSched db steps).cur.filter (mineC t) = db.cur.filter (mineC t) :=
  isolation_schedule t steps db h _ (runSched_visited db steps)

/-- **stamp_schedule** (C04): every row and position present after any schedule was there before
    or carries the (source, integration) of one of the tasks that stepped. -/
theorem stamp_schedule (steps : List SStep) (db : DB) :
    (∀ x ∈ (runSched db steps).rows, x ∈ db.rows ∨ ∃ s ∈ steps, mine s.task x = true) ∧
    (∀ x ∈ (runSched db steps).cur, x ∈ db.cur ∨ ∃ s ∈ steps, mineC s.task x = true) :=
  List.foldlRecOn (motive := fun d : DB =>
    (∀ x ∈ d.rows, x ∈ db.rows ∨ ∃ s ∈ steps, mine s.task x = true) ∧
    (∀ x ∈ d.cur, x ∈ db.cur ∨ ∃ s ∈ steps, mineC s.task x = true)) steps _
    ⟨fun _ hx => .inl hx, fun _ hx => .inl hx⟩ fun d ⟨ihr, ihc⟩ s hs =>
      have ⟨hr, hc⟩ := stamp s.task d s.script s.fault
      ⟨fun x hx => (hr x hx).elim (ihr x) fun h => .inr ⟨s, hs, h⟩,
       fun x hx => (hc x hx).elim (ihc x) fun h => .inr ⟨s, hs, h⟩⟩

theorem Inv_congr (t : Task) (c : Chain) (s : Nat) (db v : DB)
    (hr : v.rows.filter (mine t) = db.rows.filter (mine t)) (hc : v.cur.filter (mineC t) = db.cur.filter (mineC t))
    (h : Inv t c s db) : Inv t c s v := by
  unfold Inv at *
  simp only [hr, hc]
  exact h

/-- **inv_under_interleaving** (C01, C04): the exactly-once invariant of one pair — every
    recorded position is a block of the chain, the rows are exactly the projection of the blocks up to the newest
    position, each once — survives every schedule of steps by the other pairs, in every committed state the
    schedule passes through, shared table or not. Together with `inv_step` (this pair's own steps, faulted or
    not) the invariant holds along any interleaving of the two. -/
theorem inv_under_interleaving (t : Task) (c : Chain) (s : Nat) (steps : List SStep) (db : DB)
    (h : ∀ st ∈ steps, otherPair t st.task) (hinv : Inv t c s db) :
    ∀ v ∈ visited db steps, Inv t c s v := by
  intro v hv
  obtain ⟨hr, hc⟩ := isolation_schedule t steps db h v hv
  exact Inv_congr t c s db v hr hc hinv

open Ex

/-! the pair ("s","other") shares source and table with `t1`; `t1` takes a step struck by a fault
    between its two transactions, a healthy step, and a step that dies at its first `begin`; the
    state changes (rows of `t1` arrive) while the other pair's row and position are what they were
    in every visited state -/

/-- `visited` over `convergeNL` (Proofs/WorldEval.lean), for evaluation -/
def visitedNL (db : DB) : List SStep → List DB
  | [] => [db]
  | s :: rest =>
    let r := convergeNL s.task db s.script s.fault
    db :: (match r.mid with | some m => [m] | none => []) ++ visitedNL r.db rest

theorem visited_eq_NL : ∀ (steps : List SStep) (db : DB), (∀ s ∈ steps, s.script.Len64) →
    visited db steps = visitedNL db steps
  | [], _, _ => rfl
  | s :: rest, db, h => by
    rw [visited, visitedNL, converge_eq_NL (h s (List.mem_cons_self ..)),
      visited_eq_NL rest _ fun x hx => h x (List.mem_cons_of_mem _ hx)]

def tOther : Task := { t1 with ig := "other" }

def dbShared : DB := { cur := [{ src := "s", ig := "other", num := 4, hash := hx '4' }], rows := [foreign] }

def sched3 : List SStep := [⟨t1, sc1, some .insert⟩, ⟨t1, sc1, none⟩, ⟨t1, sc1, some .begin1⟩]

example : (visited dbShared sched3).map (fun d => (d.rows.length, d.cur.length)) = [(1, 1), (1, 1), (1, 1), (1, 1), (3, 2), (3, 2)] := by
  rw [visited_eq_NL _ _ (by simp [sched3, sc1_len])]; decide +kernel

example : ∀ v ∈ visited dbShared sched3,
    v.rows.filter (mine tOther) = dbShared.rows.filter (mine tOther) ∧
    v.cur.filter (mineC tOther) = dbShared.cur.filter (mineC tOther) :=
  isolation_schedule tOther sched3 dbShared (by
    intro s hs
    simp only [sched3, List.mem_cons, List.not_mem_nil, or_false] at hs
    rcases hs with rfl | rfl | rfl <;> (intro h; exact absurd h.2 (by decide)))

/-! `inv_under_interleaving` applies: `t1` has indexed blocks 1..2; the other pair then takes a step
    killed at its second commit and a healthy step (it really writes: the database grows) — `t1`'s
    invariant holds throughout -/

def tOther2 : Task := { t1 with ig := "other", table := "tb2" }

def schedOther : List SStep := [⟨tOther2, sc1, some .commit2⟩, ⟨tOther2, sc1, none⟩]

example : (visited (converge t1 {} sc1 none).db schedOther).map (fun d => (d.rows.length, d.cur.length)) =
    [(2, 1), (2, 1), (2, 1), (2, 1), (4, 2)] := by
  rw [visited_eq_NL _ _ (by simp [schedOther, sc1_len]), converge_eq_NL sc1_len]; decide +kernel

example : ∀ v ∈ visited (converge t1 {} sc1 none).db schedOther, Inv t1 c6 (t1.start - 1) v :=
  inv_under_interleaving t1 c6 _ schedOther _
    (by intro st hst
        simp only [schedOther, List.mem_cons, List.not_mem_nil, or_false] at hst
        rcases hst with rfl | rfl <;> (intro h; exact absurd h.2 (by decide)))
    (inv_step t1 c6 {} sc1 none c6_wf sc1_ok (by decide) (by decide) (by decide) (by decide) (by decide +kernel)
      rfl (by decide +kernel) (by decide +kernel)).1

example : dbShared.rows.filter (mine tOther) = [foreign] ∧ dbShared.cur.filter (mineC tOther) = dbShared.cur := by decide +kernel

end Shovel.World
