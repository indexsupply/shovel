import Shovel.Props.World
/-
  `shovel.PruneTask` (shovel/task.go) against the world model: `prune n db` (Model/World.lean)
  deletes, for every (source, integration) pair, all recorded positions except the `n` with the
  largest numbers.  It runs every ten minutes, concurrently with the indexing steps.

  The cost of pruning: `unwind_step` needs a recorded position at or below the fork.  If the fork
  position survives the prune, every hypothesis of `unwind_step` transfers (`unwind_step_prune`); if
  it does not, nothing replaces it (the examples at the end: no surviving position is canonical).
-/
namespace Shovel.World

/-- `prune` read on one pair's positions (`prune_other`) -/
def pruneL (n : Nat) (cs : List Cur) : List Cur :=
  cs.filter fun x => decide ((cs.filter fun o => decide (x.num < o.num)).length < n)

theorem mem_pruneL {n : Nat} {cs : List Cur} {x : Cur} :
    x ∈ pruneL n cs ↔ x ∈ cs ∧ (cs.filter fun o => decide (x.num < o.num)).length < n := by
  rw [pruneL, List.mem_filter, decide_eq_true_eq]

theorem prune_cur (n : Nat) (db : DB) : (prune n db).cur =
    db.cur.filter fun c => decide
      ((db.cur.filter fun o => o.src == c.src && o.ig == c.ig && decide (o.num > c.num)).length < n) := rfl

theorem prune_rows (n : Nat) (db : DB) : (prune n db).rows = db.rows := rfl

theorem prune_sub (n : Nat) (db : DB) : ∀ x ∈ (prune n db).cur, x ∈ db.cur :=
  fun _ hx => (List.mem_filter.mp hx).1

theorem prune_sublist (n : Nat) (db : DB) : (prune n db).cur.Sublist db.cur := List.filter_sublist

theorem pruneL_sublist (n : Nat) (cs : List Cur) : (pruneL n cs).Sublist cs := List.filter_sublist

theorem prune_other (n : Nat) (db : DB) (t : Task) :
    (prune n db).cur.filter (mineC t) = pruneL n (db.cur.filter (mineC t)) := by
  rw [prune_cur, pruneL, List.filter_filter, List.filter_filter]
  apply List.filter_congr
  intro x _
  cases hm : mineC t x with
  | false => simp
  | true =>
    simp only [Bool.true_and, Bool.and_true]
    have hs : x.src = t.src ∧ x.ig = t.ig := by simpa [mineC] using hm
    have : (db.cur.filter fun o => o.src == x.src && o.ig == x.ig && decide (o.num > x.num)) =
        ((db.cur.filter (mineC t)).filter fun o => decide (x.num < o.num)) := by
      rw [List.filter_filter]
      apply List.filter_congr
      intro o _
      rw [hs.1, hs.2, Bool.and_comm]
      rfl
    rw [this]

theorem prune_other_congr (n : Nat) (db db' : DB) (t : Task)
    (h : db.cur.filter (mineC t) = db'.cur.filter (mineC t)) :
    (prune n db).cur.filter (mineC t) = (prune n db').cur.filter (mineC t) := by
  rw [prune_other, prune_other, h]

theorem pruneL_top {n : Nat} (hn : 1 ≤ n) (cs : List Cur) : topOf (pruneL n cs) = topOf cs := by
  cases h : topOf cs with
  | none =>
    have := topOf_eq_none_iff.mp h
    subst this
    rfl
  | some m =>
    obtain ⟨⟨x, hx, hxm⟩, hub⟩ := topOf_eq_some_iff.mp h
    apply topOf_eq_some_iff.mpr
    refine ⟨⟨x, mem_pruneL.mpr ⟨hx, ?_⟩, hxm⟩, fun y hy => hub y (mem_pruneL.mp hy).1⟩
    -- nothing lies above the newest position
    rw [List.filter_eq_nil_iff.mpr fun o ho => by have := hub o ho; simp only [decide_eq_true_eq]; omega]
    exact hn

/-- **prune_top** (C01): with `n ≥ 1` the newest recorded position of every pair survives the prune.
    (No distinctness of the numbers is needed: a position with nothing above it is always kept.) -/
theorem prune_top {n : Nat} (hn : 1 ≤ n) (db : DB) (t : Task) :
    topOf ((prune n db).cur.filter (mineC t)) = topOf (db.cur.filter (mineC t)) := by
  rw [prune_other, pruneL_top hn]

/-- the same for the position `latest()` reads: the step after a prune starts where it would have -/
theorem prune_latestCur_num {n : Nat} (hn : 1 ≤ n) (db : DB) (t : Task) :
    ((prune n db).latestCur t.src t.ig).map (·.num) = (db.latestCur t.src t.ig).map (·.num) := by
  rw [← topOf_latest, ← topOf_latest, prune_top hn]

/-- **prune_inv** (C01): the growth invariant (for any initial position `s`) survives a prune with `n ≥ 1` -/
theorem prune_inv {n : Nat} (hn : 1 ≤ n) {t : Task} {c : Chain} {s : Nat} {db : DB}
    (hinv : Inv t c s db) : Inv t c s (prune n db) := by
  obtain ⟨h1, h2, h3⟩ := (Inv_iff t c s db).mp hinv
  rw [Inv_iff, prune_top hn, prune_rows]
  refine ⟨fun x hx => h1 x ?_, ?_, h3⟩
  · rw [prune_other] at hx
    exact (pruneL_sublist n _).subset hx
  · rw [prune_other]
    exact h2.sublist ((pruneL_sublist n _).map _)

theorem prune_keysOK {n : Nat} {t : Task} {c : Chain} {db : DB} (hk : KeysOK t c db) :
    KeysOK t c (prune n db) := hk

/-- **prune_keeps_newest** (C03): a position of the pair survives iff fewer than `n` positions of the pair
    lie above it.  (Holds for every `n` and without distinctness — it is the definition read per
    pair; distinctness is what makes "fewer than `n` above" mean "among the `n` newest", see
    `prune_count`.) -/
theorem prune_keeps_newest (n : Nat) (db : DB) (t : Task) (x : Cur) (hx : x ∈ db.cur.filter (mineC t)) :
    x ∈ (prune n db).cur ↔ ((db.cur.filter (mineC t)).filter fun o => decide (x.num < o.num)).length < n := by
  have hm : mineC t x = true := (List.mem_filter.mp hx).2
  have : x ∈ (prune n db).cur ↔ x ∈ (prune n db).cur.filter (mineC t) := by
    rw [List.mem_filter]; simp [hm]
  rw [this, prune_other, mem_pruneL, and_iff_right hx]

theorem pruneL_all {n : Nat} {cs : List Cur} (h : cs.length ≤ n) : pruneL n cs = cs := by
  rw [pruneL, List.filter_eq_self]
  intro x hx
  simp only [decide_eq_true_eq]
  have : (cs.filter fun o => decide (x.num < o.num)).length < cs.length := by
    rw [List.length_filter_lt_length_iff_exists]
    exact ⟨x, hx, by simp⟩
  omega

theorem prune_keeps_all (n : Nat) (db : DB) (t : Task) (h : (db.cur.filter (mineC t)).length ≤ n) :
    (prune n db).cur.filter (mineC t) = db.cur.filter (mineC t) := by
  rw [prune_other, pruneL_all h]

theorem above_mono (cs : List Cur) {x y : Cur} (h : x.num ≤ y.num) :
    (cs.filter fun o => decide (y.num < o.num)).length ≤ (cs.filter fun o => decide (x.num < o.num)).length := by
  rw [← List.countP_eq_length_filter, ← List.countP_eq_length_filter]
  exact List.countP_mono_left fun o _ ho => by simp only [decide_eq_true_eq] at ho ⊢; omega

theorem prune_keeps_largest (n : Nat) (db : DB) (t : Task) (x y : Cur)
    (hx : x ∈ (prune n db).cur.filter (mineC t)) (hy : y ∈ db.cur.filter (mineC t))
    (hyd : y ∉ (prune n db).cur) : y.num < x.num := by
  rw [prune_other, mem_pruneL] at hx
  refine Nat.lt_of_not_le fun hle => hyd ((prune_keeps_newest n db t y hy).mpr ?_)
  exact Nat.lt_of_le_of_lt (above_mono (db.cur.filter (mineC t)) hle) hx.2

theorem pruneL_perm_length {n : Nat} {a b : List Cur} (h : a.Perm b) :
    (pruneL n a).length = (pruneL n b).length := by
  have e : ∀ x : Cur, (a.filter fun o => decide (x.num < o.num)).length =
      (b.filter fun o => decide (x.num < o.num)).length := fun x => (h.filter _).length_eq
  unfold pruneL
  simp only [e]
  exact (h.filter _).length_eq

theorem pruneL_sorted : ∀ (l : List Cur) (n : Nat), l.Pairwise (fun x y => y.num < x.num) → pruneL n l = l.take n
  | [], n, _ => by simp [pruneL]
  | a :: l, 0, _ => by simp [pruneL]
  | a :: l, m + 1, h => by
    obtain ⟨ha, hl⟩ := List.pairwise_cons.mp h
    have ih := pruneL_sorted l m hl
    have ea : ((a :: l).filter fun o => decide (a.num < o.num)) = [] := by
      rw [List.filter_eq_nil_iff]
      intro o ho
      rcases List.mem_cons.mp ho with rfl | ho
      · simp
      · have := ha o ho
        simp only [decide_eq_true_eq]; omega
    rw [List.take_succ_cons, ← ih]
    unfold pruneL
    rw [List.filter_cons, ea]
    simp only [List.length_nil, Nat.zero_lt_succ, decide_true, ↓reduceIte]
    congr 1
    apply List.filter_congr
    intro x hx
    have hxa := ha x hx
    rw [List.filter_cons]
    simp only [hxa, decide_true, ↓reduceIte, List.length_cons]
    congr 1
    exact propext (by omega)

theorem pruneL_length (n : Nat) (cs : List Cur) (hnd : (cs.map (·.num)).Nodup) :
    (pruneL n cs).length = min n cs.length := by
  -- the length is invariant under permutation, and on the descending sort `pruneL` is `take n`
  let le : Cur → Cur → Bool := fun x y => decide (y.num ≤ x.num)
  have hp := List.mergeSort_perm cs le
  have hs : (cs.mergeSort le).Pairwise (fun a b => le a b = true) :=
    List.pairwise_mergeSort (fun a b c h1 h2 => by simp only [le, decide_eq_true_eq] at *; omega)
      (fun a b => by simp only [le, Bool.or_eq_true, decide_eq_true_eq]; omega) _
  have hnd' : ((cs.mergeSort le).map (·.num)).Nodup := (hp.map _).nodup_iff.mpr hnd
  have hne : (cs.mergeSort le).Pairwise (fun a b => a.num ≠ b.num) := List.pairwise_map.mp hnd'
  have hsorted : (cs.mergeSort le).Pairwise (fun x y => y.num < x.num) :=
    (hs.and hne).imp (fun {a b} h => by
      have h1 : b.num ≤ a.num := by simpa [le] using h.1
      have h2 := h.2
      omega)
  rw [← pruneL_perm_length hp, pruneL_sorted _ _ hsorted, List.length_take, hp.length_eq]

/-- distinct numbers (the unique index; `Inv` gives it): EXACTLY the `n` newest survive — `min n k` of
    the `k` recorded, and by `prune_keeps_largest` the largest -/
theorem prune_count (n : Nat) (db : DB) (t : Task) (hnd : ((db.cur.filter (mineC t)).map (·.num)).Nodup) :
    ((prune n db).cur.filter (mineC t)).length = min n (db.cur.filter (mineC t)).length := by
  rw [prune_other, pruneL_length n _ hnd]

/-- **prune_then_step** (C01, C02): a prune (with `n ≥ 1`) between two steps changes nothing about what
    `inv_step` promises — every state the step after the prune can leave behind, final or mid-way,
    with any fault and any honest-or-failed answers, satisfies the invariant, and `KeysOK` holds
    for the next step. -/
theorem prune_then_step {n : Nat} (hn : 1 ≤ n) (t : Task) (c : Chain) (db : DB) (sc : Script) (f : Option Pos)
    (hc : c.WF) (hsc : ScriptOK c sc) (hstart : 0 < t.start) (hb : 1 ≤ t.batch) (hcc : 1 ≤ t.conc) (hcb : t.conc * t.batch < 2 ^ 63)
    (hhead : c.head < 2 ^ 62) (hdeps : t.deps = []) (hinv : Inv t c (t.start - 1) db) (hk : KeysOK t c db) :
    let r := converge t (prune n db) sc f
    Inv t c (t.start - 1) r.db ∧ (∀ m, r.mid = some m → Inv t c (t.start - 1) m) ∧ KeysOK t c r.db := by
  intro r
  have h := inv_step t c (prune n db) sc f hc hsc hstart hb hcc hcb hhead hdeps (prune_inv hn hinv)
    (prune_keysOK hk)
  exact ⟨h.1, h.2, keysOK_step t c (prune n db) sc f (prune_keysOK hk)⟩

/-- both hypotheses that `troubled_inv` / `converges_despite_faults` / `reaches_head` start from hold
    after a prune, so a prune may be inserted before any of them (and, by `troubled_inv`, between
    any two steps of a troubled period) -/
theorem prune_troubled_inv {n : Nat} (hn : 1 ≤ n) (t : Task) (c : Chain) (db : DB)
    (hinv : Inv t c (t.start - 1) db) (hk : KeysOK t c db) :
    Inv t c (t.start - 1) (prune n db) ∧ KeysOK t c (prune n db) :=
  ⟨prune_inv hn hinv, prune_keysOK hk⟩

/-- **unwind_hyps_prune** (C03): if the fork position `g` is still recorded after the prune, EVERY
    hypothesis of `unwind_step` about the database transfers from `db` to `prune n db` — those about
    positions (`hnodup`, `hg`, `hbelow`, `habove`, `hcount`, `hgrow`, and `hnone`, whose premise
    mentions positions) and those about rows (`hrows`, `hk`, unchanged).  `hnone` is the only one
    that is not a plain "subset" argument: it needs that the newest position survives (`prune_top`;
    `n ≥ 1` follows from `g` having survived). -/
theorem unwind_hyps_prune {n : Nat} (t : Task) (c : Chain) (db : DB) (g : Cur)
    (hgp : g ∈ (prune n db).cur.filter (mineC t))
    (hnodup : ((db.cur.filter (mineC t)).map (·.num)).Nodup)
    (hbelow : ∀ x ∈ db.cur.filter (mineC t), x.num ≤ g.num →
      t.start - 1 < x.num ∧ x.num ≤ c.head ∧ x.hash = c.hashAt x.num)
    (habove : ∀ x ∈ db.cur.filter (mineC t), g.num < x.num → x.hash ≠ c.hashAt x.num)
    (hcount : ((db.cur.filter (mineC t)).filter fun x => g.num < x.num).length ≤ 1000)
    (hrows : (db.rows.filter fun r => mine t r && decide (r.blk ≤ g.num)) =
      (c.slice t.start (g.num - (t.start - 1))).flatMap (rowsFor t))
    (hk : KeysOK t c { db with rows := db.rows.filter fun r => !(mine t r && decide (g.num < r.blk)) })
    (hnone : (∀ x ∈ db.cur.filter (mineC t), x.num ≤ g.num) → ∀ r ∈ db.rows, mine t r = true → r.blk ≤ g.num)
    (hgrow : ∀ x ∈ db.cur.filter (mineC t), x.num < c.head) :
    (((prune n db).cur.filter (mineC t)).map (·.num)).Nodup ∧
    g ∈ (prune n db).cur.filter (mineC t) ∧
    (∀ x ∈ (prune n db).cur.filter (mineC t), x.num ≤ g.num →
      t.start - 1 < x.num ∧ x.num ≤ c.head ∧ x.hash = c.hashAt x.num) ∧
    (∀ x ∈ (prune n db).cur.filter (mineC t), g.num < x.num → x.hash ≠ c.hashAt x.num) ∧
    ((((prune n db).cur.filter (mineC t)).filter fun x => g.num < x.num).length ≤ 1000) ∧
    (((prune n db).rows.filter fun r => mine t r && decide (r.blk ≤ g.num)) =
      (c.slice t.start (g.num - (t.start - 1))).flatMap (rowsFor t)) ∧
    KeysOK t c { prune n db with rows := (prune n db).rows.filter fun r => !(mine t r && decide (g.num < r.blk)) } ∧
    ((∀ x ∈ (prune n db).cur.filter (mineC t), x.num ≤ g.num) →
      ∀ r ∈ (prune n db).rows, mine t r = true → r.blk ≤ g.num) ∧
    (∀ x ∈ (prune n db).cur.filter (mineC t), x.num < c.head) := by
  have hsl : ((prune n db).cur.filter (mineC t)).Sublist (db.cur.filter (mineC t)) := by
    rw [prune_other]; exact pruneL_sublist n _
  have hsub : ∀ x ∈ (prune n db).cur.filter (mineC t), x ∈ db.cur.filter (mineC t) := fun x hx => hsl.subset hx
  have hn : 1 ≤ n := by
    have h := hgp
    rw [prune_other, mem_pruneL] at h
    exact Nat.lt_of_le_of_lt (Nat.zero_le _) h.2
  refine ⟨hnodup.sublist (hsl.map _), hgp, fun x hx => hbelow x (hsub x hx), fun x hx => habove x (hsub x hx),
    Nat.le_trans (hsl.filter _).length_le hcount, hrows, hk, fun hall => hnone fun x hx => ?_,
    fun x hx => hgrow x (hsub x hx)⟩
  -- the newest position of `db` survives, so it is at or below `g`; everything is below it
  cases htop : topOf (db.cur.filter (mineC t)) with
  | none => rw [topOf_eq_none_iff.mp htop] at hx; cases hx
  | some m =>
    have htop' := prune_top hn db t
    rw [htop] at htop'
    obtain ⟨⟨z, hz, hzm⟩, _⟩ := topOf_eq_some_iff.mp htop'
    have h1 := (topOf_eq_some_iff.mp htop).2 x hx
    have h2 := hall z hz
    omega

/-- **unwind_step_prune** (C03): `unwind_step` after a prune.  The hypotheses are those of `unwind_step`
    about the database BEFORE the prune, plus: fewer than `n` recorded positions lie above the fork
    position `g` (the reorg is shallower than the retained history).  One fault-free honest step on
    the pruned database unwinds to `g`, indexes the next batch of `c` and re-establishes `Inv`. -/
theorem unwind_step_prune {n : Nat} (t : Task) (c : Chain) (db : DB) (sc : Script) (g : Cur)
    (hc : c.WF) (hsc : ScriptOK c sc) (hstart : 0 < t.start) (hb : 1 ≤ t.batch) (hcc : 1 ≤ t.conc)
    (hcb : t.conc * t.batch < 2 ^ 63) (hhead : c.head < 2 ^ 62) (hdeps : t.deps = []) (hstop : t.stop = 0)
    (hnodup : ((db.cur.filter (mineC t)).map (·.num)).Nodup)
    (hg : g ∈ db.cur.filter (mineC t))
    (hbelow : ∀ x ∈ db.cur.filter (mineC t), x.num ≤ g.num →
      t.start - 1 < x.num ∧ x.num ≤ c.head ∧ x.hash = c.hashAt x.num)
    (habove : ∀ x ∈ db.cur.filter (mineC t), g.num < x.num → x.hash ≠ c.hashAt x.num)
    (hfew : ((db.cur.filter (mineC t)).filter fun x => g.num < x.num).length < min n 1001)
    (hrows : (db.rows.filter fun r => mine t r && decide (r.blk ≤ g.num)) =
      (c.slice t.start (g.num - (t.start - 1))).flatMap (rowsFor t))
    (hk : KeysOK t c { db with rows := db.rows.filter fun r => !(mine t r && decide (g.num < r.blk)) })
    (hnone : (∀ x ∈ db.cur.filter (mineC t), x.num ≤ g.num) → ∀ r ∈ db.rows, mine t r = true → r.blk ≤ g.num)
    (hgrow : ∀ x ∈ db.cur.filter (mineC t), x.num < c.head)
    (hhonest : (∀ a ∈ sc.latest, a = some (c.head, c.hashAt c.head)) ∧ (∀ p ∈ sc.hash, p.2 ≠ none) ∧
      (∀ q ∈ sc.gets, q.2 ≠ none)) :
    let r := converge t (prune n db) sc none
    r.scriptOk = true →
    (∃ m, r.outcome = .ok m ∧ g.num < m) ∧ Inv t c (t.start - 1) r.db ∧
    (r.db.rows.filter fun r => mine t r && decide (r.blk ≤ g.num)) =
      (db.rows.filter fun r => mine t r && decide (r.blk ≤ g.num)) := by
  have hgp : g ∈ (prune n db).cur.filter (mineC t) := by
    rw [prune_other, mem_pruneL]
    exact ⟨hg, Nat.lt_of_lt_of_le hfew (Nat.min_le_left _ _)⟩
  have hcount : ((db.cur.filter (mineC t)).filter fun x => g.num < x.num).length ≤ 1000 := by
    have := Nat.lt_of_lt_of_le hfew (Nat.min_le_right n 1001); omega
  obtain ⟨h1, h2, h3, h4, h5, h6, h7, h8, h9⟩ :=
    unwind_hyps_prune (n := n) t c db g hgp hnodup hbelow habove hcount hrows hk hnone hgrow
  exact unwind_step t c (prune n db) sc g hc hsc hstart hb hcc hcb hhead hdeps hstop h1 h2 h3 h4 h5 h6 h7 h8 h9 hhonest

namespace PruneEx
open Ex

def cu (ig : String) (n : Nat) : Cur := { src := "s", ig := ig, num := n, hash := "h" }

/-- two pairs `(s, i)` and `(s, j)`, five positions each, interleaved and out of order -/
def db10 : DB :=
  { cur := [cu "i" 1, cu "j" 1, cu "i" 2, cu "j" 3, cu "i" 3, cu "j" 2, cu "i" 5, cu "j" 4, cu "i" 4, cu "j" 5],
    rows := [row 1 "k1", foreign] }

def tJ : Task := { t1 with ig := "j" }

/-- `prune 2` keeps the two newest positions of each pair (in place), rows untouched -/
example : prune 2 db10 = { cur := [cu "i" 5, cu "j" 4, cu "i" 4, cu "j" 5], rows := [row 1 "k1", foreign] } := by
  decide +kernel

example : (prune 2 db10).cur.filter (mineC t1) = [cu "i" 5, cu "i" 4] ∧
    (prune 2 db10).cur.filter (mineC tJ) = [cu "j" 4, cu "j" 5] ∧
    topOf ((prune 2 db10).cur.filter (mineC t1)) = some 5 ∧ topOf (db10.cur.filter (mineC t1)) = some 5 := by
  decide +kernel

/-- pair-locality: deleting all of `(s, j)`'s positions does not change what is pruned of `(s, i)` -/
example : (prune 2 { db10 with cur := db10.cur.filter (mineC t1) }).cur.filter (mineC t1) =
    (prune 2 db10).cur.filter (mineC t1) := by decide +kernel

/-- a pair with no more than `n` positions loses nothing -/
example : prune 5 db10 = db10 := by decide +kernel

/-- `prune 0` deletes every position: `hn : 1 ≤ n` is needed in `prune_top` … -/
example : (prune 0 db10).cur = [] ∧
    topOf ((prune 0 db10).cur.filter (mineC t1)) = none ∧ topOf (db10.cur.filter (mineC t1)) = some 5 := by
  decide +kernel

example : ¬ (topOf ((prune 0 db10).cur.filter (mineC t1)) = topOf (db10.cur.filter (mineC t1))) := by
  decide +kernel

/-- … and in `prune_inv`: the state after the first step of `Ex` satisfies `Inv`, its `prune 0` does
    not (rows without a position) -/
example : Inv t1 c6 (t1.start - 1) (converge t1 {} sc1 none).db ∧
    ¬ Inv t1 c6 (t1.start - 1) (prune 0 (converge t1 {} sc1 none).db) := by
  rw [converge_eq_NL sc1_len]; decide +kernel

/-- the hypotheses of `prune_then_step` are jointly satisfiable (prune, then the first step) -/
example : Inv t1 c6 (t1.start - 1) (converge t1 (prune 200 {}) sc1 none).db :=
  (prune_then_step (n := 200) (by decide) t1 c6 {} sc1 none c6_wf sc1_ok (by decide) (by decide) (by decide)
    (by decide) (by decide +kernel) rfl (by decide +kernel) (by decide +kernel)).1

/-! the reorg of `Ex` (`dbR`: position 2 canonical, position 4 orphaned).  `prune 2` keeps the fork
    position, so `unwind_step_prune` applies. -/

theorem prune_dbR : prune 2 dbR = dbR := by decide +kernel

example : prune 2 dbR = dbR := prune_dbR

example : (∃ n, (converge t1 (prune 2 dbR) scR none).outcome = .ok n ∧ g2.num < n) ∧
    Inv t1 c6 (t1.start - 1) (converge t1 (prune 2 dbR) scR none).db :=
  have h := unwind_step_prune (n := 2) t1 c6 dbR scR g2 c6_wf scR_ok (by decide) (by decide) (by decide) (by decide)
    (by decide +kernel) rfl rfl (by decide +kernel) (by decide +kernel) (by decide +kernel) (by decide +kernel)
    (by decide +kernel) (by decide +kernel) (by decide +kernel) (by decide +kernel) (by decide +kernel)
    (by decide +kernel) (by rw [prune_dbR]; exact dbR_step.2.2.2)
  ⟨h.1, h.2.1⟩

/-! the cost.  `prune 1` deletes the fork position of `dbR`: the only position left is the orphan,
    so NO position can play the role of `g` in `unwind_step` (`hg` + `hbelow` need a recorded
    position whose hash is the chain's). -/

example : (prune 1 dbR).cur = [{ src := "s", ig := "i", num := 4, hash := hx 'd' }] := by decide +kernel

theorem no_fork_left : ∀ g ∈ (prune 1 dbR).cur.filter (mineC t1), g.hash ≠ c6.hashAt g.num := by
  decide +kernel

/-- `hg` and `hbelow` of `unwind_step` cannot both hold for `prune 1 dbR`, whatever `g` -/
example : ¬ ∃ g, g ∈ (prune 1 dbR).cur.filter (mineC t1) ∧
    (∀ x ∈ (prune 1 dbR).cur.filter (mineC t1), x.num ≤ g.num →
      t1.start - 1 < x.num ∧ x.num ≤ c6.head ∧ x.hash = c6.hashAt x.num) := by
  rintro ⟨g, hg, hb⟩
  exact no_fork_left g hg (hb g hg (Nat.le_refl _)).2.2

/-- honest answers for the step on `prune 1 dbR` -/
def scDeep : Script :=
  { latest := [some (5, c6.hashAt 5), some (5, c6.hashAt 5)], hash := [(0, some (c6.hashAt 0))],
    gets := [((5, 1), some (c6.slice 5 1)), ((1, 1), some (c6.slice 1 1)), ((2, 1), some (c6.slice 2 1))] }

/-- what the model does then (configured start ≥ 1): the unwind runs out of recorded positions,
    falls back to the configured start, deletes ALL the task's rows — including rows 1 and 2 below
    the fork, which `unwind_step` keeps — and indexes again from `start`.  Correct (`Inv` holds
    again), but a full re-index instead of an unwind to the fork. -/
example : (converge t1 (prune 1 dbR) scDeep none).outcome = .ok 2 ∧
    (converge t1 (prune 1 dbR) scDeep none).mid = some { cur := [], rows := [foreign] } ∧
    (converge t1 (prune 1 dbR) scDeep none).db =
      { cur := [g2], rows := [foreign, row 1 "k1", row 2 "k2"] } ∧
    (converge t1 (prune 1 dbR) scDeep none).scriptOk = true ∧
    Inv t1 c6 (t1.start - 1) (converge t1 (prune 1 dbR) scDeep none).db := by
  rw [converge_eq_NL ((scriptOKb_sound c6 scDeep (by decide +kernel)).len64 c6_wf)]; decide +kernel

/-- without the prune the same state unwinds to the fork and keeps rows 1 and 2 (`Ex`) -/
example : (converge t1 dbR scR none).mid = some { cur := [g2], rows := [row 1 "k1", row 2 "k2", foreign] } :=
  dbR_step.2.2.1

/-- a task that starts "at the current head" (`start = 0`, outside `inv_step`/`unwind_step`) -/
def t0 : Task := { t1 with start := 0 }

def scDeep0 : Script :=
  { latest := [some (5, c6.hashAt 5), some (5, c6.hashAt 5), some (5, c6.hashAt 5)], hash := [(4, some (c6.hashAt 4))],
    gets := [((5, 1), some (c6.slice 5 1)), ((5, 1), some (c6.slice 5 1))] }

/-- … has no configured start to fall back to: after the pruned history is exhausted it restarts
    just below the source's head, so the table keeps rows 1–3 (row 3 from the ORPHANED block 3) and
    jumps to block 5: block 3 is wrong and block 4 is missing. -/
example : (converge t0 (prune 1 dbR) scDeep0 none).outcome = .ok 5 ∧
    (converge t0 (prune 1 dbR) scDeep0 none).db =
      { cur := [{ src := "s", ig := "i", num := 5, hash := hx '5' }],
        rows := [row 1 "k1", row 2 "k2", row 3 "o3", foreign, row 5 "k5"] } ∧
    (converge t0 (prune 1 dbR) scDeep0 none).scriptOk = true := by
  rw [converge_eq_NL ((scriptOKb_sound c6 scDeep0 (by decide +kernel)).len64 c6_wf)]; decide +kernel

end PruneEx

end Shovel.World

#print axioms Shovel.World.prune_rows
#print axioms Shovel.World.prune_sub
#print axioms Shovel.World.prune_other
#print axioms Shovel.World.prune_top
#print axioms Shovel.World.prune_inv
#print axioms Shovel.World.prune_keysOK
#print axioms Shovel.World.prune_keeps_newest
#print axioms Shovel.World.prune_keeps_all
#print axioms Shovel.World.prune_keeps_largest
#print axioms Shovel.World.prune_count
#print axioms Shovel.World.prune_then_step
#print axioms Shovel.World.unwind_hyps_prune
#print axioms Shovel.World.unwind_step_prune
