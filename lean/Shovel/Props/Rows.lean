import Shovel.Proofs.Rows
/-
  C11 / C12 / C13: the row builder (`Shovel/Model/Row.lean`) meets the row specification
  (`Shovel/Spec/Row.lean`).

  The specification builds a row right to left and collects the truth values of the filters in a list;
  the model goes left to right and folds them into the aggregate as it meets them.  Both sides are first
  brought into a common form in `Shovel/Proofs/Rows.lean` (`accept_eq`: `Filter.Accept` adds the
  verdict of `holds`; the specification's loops as `Option.bind` chains over `addRes`), so that one
  column is one step of either (`addRes_some`).
-/
namespace Shovel.Row
open Shovel.Abi

/-- **agg_fold** (C12): adding the filters' truth values to `filterResults` one by one and asking
    `accept` at the end is the declared aggregation: all of them under "and", one of them otherwise,
    and acceptance when no filter contributed a value. -/
theorem agg_fold (agg : String) (bs : List Bool) :
    (bs.foldl Frs.add { kind := agg }).accept = aggAccept agg bs := by
  cases bs with
  | nil => simp [Frs.accept, aggAccept]
  | cons b bs =>
    rw [List.foldl_cons]
    have : Frs.add { kind := agg } b = { kind := agg, set := true, val := b } := by simp [Frs.add]
    rw [this, Frs.foldl_set]
    simp [aggAccept]

/-- **op_sem** (C12): `Filter.Accept` follows the operator semantics `holds`: without a verdict the
    aggregate is left alone, a truth value is added to it, an unparsable argument is an error.  The
    right-hand disjuncts (added twice; panic) never arise: `accept_eq` is the exact form, the second
    `add` of a `contains` verdict being absorbed (`Frs.add_add`). -/
theorem op_sem (refs : Refs) (f : Filter) (dv : DVal) (frs : Frs) :
    match holds refs f dv with
    | none => accept refs f dv frs = .ok frs
    | some (.ok b) => accept refs f dv frs = .ok (frs.add b) ∨ accept refs f dv frs = .ok ((frs.add b).add b)
    | some _ => accept refs f dv frs = .err ∨ accept refs f dv frs = .panic := by
  rw [accept_eq]
  cases holds refs f dv with
  | none => rfl
  | some r => cases r <;> exact .inl rfl

/-- **dbtype_eq_renderSpec** (C11): the value `dbtype` puts in a cell is the ABI reading of the bytes
    for the column's elementary type: `uintN`, `intN` in two's complement, `address` (the last 20 bytes
    of a word), `bool`, `string`, and bytes otherwise — arrays by their element type. -/
theorem dbtype_eq_renderSpec (ty : List Char) (dd : List Nat) : dbtype ty dd = renderSpec ty dd := by
  unfold dbtype renderSpec beforeBracket hasPrefix setBytes
  generalize ty.takeWhile (· ≠ '[') = base
  generalize beVal (List.drop (dd.length - 32) dd) = x
  -- the two sides test `int…` and `uint…` in opposite orders, which is immaterial: no name begins with both
  by_cases hi : "int".toList.isPrefixOf base = true
  · have hu : ¬ "uint".toList.isPrefixOf base = true := fun hu => not_int_uint base ⟨hi, hu⟩
    simp only [hi, hu, Bool.false_eq_true, if_true, if_false]
    congr 1
    split <;> split <;> omega
  · simp only [hi, Bool.false_eq_true, if_false]
    refine ite_congr rfl (fun _ => rfl) fun _ => ?_
    refine ite_congr rfl (fun _ => (apply_ite DVal.bytes ..).symm) fun _ => ?_
    refine ite_congr rfl (fun _ => ?_) fun _ => rfl
    cases dd.length == 32 <;> rfl

/-- **render_int** (C11): a 32-byte word in a `uint…` column is its big-endian value, in an `int…`
    column the two's-complement value, whatever follows the prefix (width, array suffix). -/
theorem render_int (w : List Nat) (hw : w.length = 32) (suffix : List Char) :
    dbtype ("uint".toList ++ suffix) w = .u256 (beVal w) ∧
    dbtype ("int".toList ++ suffix) w =
      .neg (if beVal w < 2 ^ 255 then (beVal w : Int) else (beVal w : Int) - 2 ^ 256) := by
  rw [dbtype_eq_renderSpec, dbtype_eq_renderSpec]
  simp [renderSpec, hw, List.takeWhile, List.isPrefixOf]

/-- **gate_reject_total** (C13): a log whose topic count or topic 0 is not that of the declared event
    yields no row and no error, whatever the scan of its data returned. -/
theorem gate_reject_total (refs : Refs) (d : Decl) (ctx : Ctx) (lg : Log)
    (sr : Res (List (List (Option (List Nat)))))
    (h : ¬ (lg.topics.length = 1 + numIndexed d.inputs ∧ lg.topics.head? = some d.sighash)) :
    processLog refs d ctx lg sr = .ok [] := by
  rw [← gate_iff] at h
  simp [processLog, h]

/-- **gate_only** (C13): every row comes from a log of the declared event: one topic per indexed
    input after topic 0, and topic 0 the signature hash. -/
theorem gate_only (refs : Refs) (d : Decl) (ctx : Ctx) (lg : Log)
    (sr : Res (List (List (Option (List Nat))))) (rs : List (List DVal))
    (h : processLog refs d ctx lg sr = .ok rs) (hne : rs ≠ []) :
    lg.topics.length = 1 + numIndexed d.inputs ∧ lg.topics.head? = some d.sighash := by
  apply Decidable.byContradiction
  intro hn
  rw [gate_reject_total refs d ctx lg sr hn] at h
  cases h
  exact hne rfl

/-- **inputCols_ownTopic** (C11): the topic `setCols` reads an indexed selected input from is that
    input's own position among the indexed ones (after the signature hash), provided `indexed` marks
    sit on top-level inputs only (`ixOK`; the last example below shows what happens otherwise). -/
theorem inputCols_ownTopic (inputs : Inps) (hix : ixOK inputs = true) :
    (inputCols inputs 0).filter (·.1) =
      ((selWithTop inputs 0).filter (·.1)).map fun (ix, k, ty) => (ix, ownTopic inputs k, ty) := by
  rw [inputCols_eq_selWithTop, List.filter_map]
  apply List.map_congr_left
  intro p hp
  rw [List.mem_filter] at hp
  simp only [count_ownTopic inputs hix p hp.1 hp.2]

theorem buildRow_block (refs : Refs) (ctx : Ctx) (lg : Log) (abiIdx : Option Nat)
    (block : List (String × Filter)) {p : List DVal × List Bool}
    (h : specRow.goBd refs ctx abiIdx.isSome (abiIdx.getD 0) block = some p)
    (cells : List (Option (List Nat))) (frs : Frs) :
    buildRow refs ctx lg abiIdx (block.map fun c => ColDef.block c.1 c.2) cells frs =
      .ok (p.1, p.2.foldl Frs.add frs) := by
  induction block generalizing p frs with
  | nil => cases h; rfl
  | cons c rest ih =>
    obtain ⟨n, f⟩ := c
    rw [specRow_goBd_cons, Option.bind_eq_some_iff] at h
    obtain ⟨r, hr, h⟩ := h
    simp only [List.map_cons, buildRow]
    split at h
    · rename_i hn
      split at h
      · rename_i hd; cases h; simp [hn, hd, ih hr]
      · cases h
    · rename_i hn
      obtain ⟨rfl, hacc⟩ := addRes_some h
      simp [hn, hacc, accept_eq, ih hr, List.foldl_append]

/-- `tail`, `q`, `htail`: the block columns that follow, as `buildRow_block` settles them; `G`: the
    model's topic numbering, only known to agree with `ownTopic` on indexed entries (`hG`) -/
theorem buildRow_input {refs : Refs} {d : Decl} {ctx : Ctx} {lg : Log} {abiIdx : Option Nat}
    {G : Nat → Nat} {tail : List ColDef} {q : List DVal × List Bool}
    (htail : ∀ cells frs, buildRow refs ctx lg abiIdx tail cells frs = .ok (q.1, q.2.foldl Frs.add frs))
    {cols : List (Bool × Nat × List Char)}
    (hG : ∀ c ∈ cols, c.1 = true → G c.2.1 = ownTopic d.inputs c.2.1)
    {fl : List Filter} {cells : List (Option (List Nat))} (hcells : abiIdx = none → cells = [])
    {p : List DVal × List Bool} (h : specRow.goIn refs d lg cols fl cells = some p) (frs : Frs) :
    buildRow refs ctx lg abiIdx (inputColDefs G cols fl ++ tail) cells frs =
      .ok (p.1 ++ q.1, (p.2 ++ q.2).foldl Frs.add frs) := by
  induction cols generalizing fl cells p frs with
  | nil => cases h; simp [inputColDefs, htail]
  | cons c rest ih =>
    obtain ⟨ix, k, ty⟩ := c
    have hG' : ∀ c ∈ rest, c.1 = true → G c.2.1 = ownTopic d.inputs c.2.1 :=
      fun c hc => hG c (List.mem_cons_of_mem _ hc)
    simp only [inputColDefs, List.cons_append]
    cases ix with
    | true =>
      simp only [specRow_goIn_true, Option.bind_eq_some_iff] at h
      obtain ⟨t, ht, r, hr, h⟩ := h
      obtain ⟨rfl, hacc⟩ := addRes_some h
      simp only [buildRow, hG _ List.mem_cons_self rfl, ht, dbtype_eq_renderSpec, accept_eq, hacc,
        ih hG' hcells hr, List.cons_append, List.append_assoc, List.foldl_append]
    | false =>
      rw [specRow_goIn_false] at h
      cases cells with
      | nil => cases h
      | cons c cells' =>
        cases abiIdx with
        | none => cases hcells rfl
        | some ai =>
          simp only [Option.bind_eq_some_iff] at h
          obtain ⟨r, hr, h⟩ := h
          obtain ⟨rfl, hacc⟩ := addRes_some h
          simp only [buildRow, dbtype_eq_renderSpec, accept_eq, hacc, ih hG' (fun h => nomatch h) hr,
            List.cons_append, List.append_assoc, List.foldl_append]

theorem buildRow_spec (refs : Refs) (d : Decl) (ctx : Ctx) (lg : Log) (abiIdx : Option Nat)
    (hix : ixOK d.inputs = true) (cells : List (Option (List Nat))) (hcells : abiIdx = none → cells = [])
    {p : List DVal × List Bool}
    (h : specRow refs d ctx lg abiIdx.isSome cells (abiIdx.getD 0) = some p) (frs : Frs) :
    buildRow refs ctx lg abiIdx d.coldefs cells frs = .ok (p.1, p.2.foldl Frs.add frs) := by
  simp only [specRow_eq, Option.bind_eq_some_iff] at h
  obtain ⟨a, h1, b, h2, h⟩ := h
  cases h
  rw [coldefs_eq]
  exact buildRow_input (buildRow_block refs ctx lg abiIdx d.block h2) (count_ownTopic d.inputs hix)
    hcells h1 frs

theorem processLog_go_spec (refs : Refs) (d : Decl) (ctx : Ctx) (lg : Log) (v : Val) (hix : ixOK d.inputs = true)
    (rs : List (List (Option (List Nat)))) (i : Nat) (rows : List (List DVal))
    (h : specRows.go refs d ctx lg (some v) rs i = some rows) :
    processLog.go refs d ctx lg rs i = .ok rows := by
  fun_induction specRows.go refs d ctx lg (some v) rs i generalizing rows with
  | case1 => cases h; rfl
  | case2 cells more i row bs rows' h2 h1 ih =>
    cases h
    simp only [processLog.go, buildRow_spec refs d ctx lg (some i) hix cells (fun h => nomatch h) h1,
      ih _ h2, agg_fold]
  | case3 => cases h

theorem specRows_closed (refs : Refs) (d : Decl) (ctx : Ctx) (lg : Log) (t : Ty) (v : Option Val)
    (hg : gate (numIndexed d.inputs) d.sighash lg = false) : specRows refs d ctx lg t v = .rows [] := by
  rw [gate_eq_spec] at hg
  simp only [specRows, hg, Bool.not_false, if_true]

theorem specRows_rows {refs : Refs} {d : Decl} {ctx : Ctx} {lg : Log} {t : Ty} {v : Option Val}
    {rs : List (List DVal)} (h : specRows refs d ctx lg t v = .rows rs) :
    (gate (numIndexed d.inputs) d.sighash lg = false ∧ rs = []) ∨
    (gate (numIndexed d.inputs) d.sighash lg = true ∧ ∃ cells,
      (match v with
        | some v => some (rowsOf t v)
        | none => if t.nsel == 0 then some [[]] else none) = some cells ∧
      specRows.go refs d ctx lg v cells 0 = some rs) := by
  revert h
  fun_cases specRows refs d ctx lg t v with
  | case1 hg =>
    intro h; cases h
    exact .inl ⟨by rw [gate_eq_spec, ← Bool.not_eq_true']; exact hg, rfl⟩
  | case2 | case4 => nofun
  | case3 hg dataRows cells hc rows hgo =>
    intro h; cases h
    exact .inr ⟨by rw [gate_eq_spec, ← Bool.not_eq_false', ← Bool.not_eq_true]; exact hg, cells, hc, hgo⟩

/-- **processLog_spec** (C11, C12, C13): for a log with data, given the rows the decoder yields
    for the encoded value (`rowsOf`, C09): whenever the specification fixes the rows of the log,
    `processLog` returns exactly those, in order. -/
theorem processLog_spec (refs : Refs) (d : Decl) (ctx : Ctx) (lg : Log) (t : Ty) (v : Val)
    (rs : List (List DVal)) (hdata : lg.data.length > 0) (hix : ixOK d.inputs = true)
    (hspec : specRows refs d ctx lg t (some v) = .rows rs) :
    processLog refs d ctx lg (.ok (rowsOf t v)) = .ok rs := by
  rcases specRows_rows hspec with ⟨hg, rfl⟩ | ⟨hg, cells, hc, hgo⟩
  · simp [processLog, hg]
  · cases hc
    simp only [processLog, hg, Bool.not_true, Bool.false_eq_true, if_false, if_pos hdata]
    exact processLog_go_spec refs d ctx lg v hix _ _ _ hgo

/-- **processLog_spec_nodata** (C11): a log without data is not scanned (`sr` is never
    looked at); whenever the specification fixes its rows — one row of topics and block fields, or
    none — `processLog` returns exactly those. -/
theorem processLog_spec_nodata (refs : Refs) (d : Decl) (ctx : Ctx) (lg : Log) (t : Ty)
    (rs : List (List DVal)) (hdata : lg.data.length = 0) (hix : ixOK d.inputs = true)
    (hspec : specRows refs d ctx lg t none = .rows rs) (sr : Res (List (List (Option (List Nat))))) :
    processLog refs d ctx lg sr = .ok rs := by
  rcases specRows_rows hspec with ⟨hg, rfl⟩ | ⟨hg, cells, hc, hgo⟩
  · simp [processLog, hg]
  · -- one row without cells, built without an element index
    dsimp only at hc
    split at hc <;> cases hc
    rw [specRows_go_cons] at hgo
    simp only [specRows.go, Option.isSome_none, Option.bind_eq_some_iff] at hgo
    obtain ⟨r, h1, _, h2, h⟩ := hgo
    cases h2
    cases h
    simp only [processLog, hg, Bool.not_true, Bool.false_eq_true, if_false, hdata, Nat.lt_irrefl,
      buildRow_spec refs d ctx lg none hix [] (fun _ => rfl) h1, agg_fold]

/-- **pushdown_sound** (C12): when an address restriction is sent with `eth_getLogs`, every log for
    which the property demands a row has its address among the pushed ones: the restriction never
    withholds a log the declared filters accept. -/
theorem pushdown_sound (refs : Refs) (d : Decl) (ctx : Ctx) (lg : Log) (t : Ty) (v : Option Val)
    (a : List Nat) (ha : ctx.get "log_addr" = .bytes a) (hlen : a.length = 20)
    (rs : List (List DVal)) (hspec : specRows refs d ctx lg t v = .rows rs) (hne : rs ≠ [])
    (hpush : pushedAddrs d ≠ []) :
    a ∈ pushedAddrs d := by
  obtain ⟨x, hx⟩ := List.exists_mem_of_ne_nil _ hpush
  simp only [pushedAddrs, List.mem_flatMap] at hx ⊢
  obtain ⟨⟨n, f⟩, hmem, hx⟩ := hx
  split at hx
  case isFalse => cases hx
  rename_i hcond
  refine ⟨(n, f), hmem, ?_⟩
  rw [if_pos hcond]
  simp only [Bool.and_eq_true, beq_iff_eq] at hcond
  obtain ⟨rfl, hp⟩ := hcond
  -- its verdict is among the truth values of an emitted row, which the aggregation accepts
  obtain ⟨b, hholds, himp⟩ := pushAddrs_holds refs d f a hp hlen
  obtain ⟨cells, i', p, hrow, hacc⟩ : ∃ cells i' p,
      specRow refs d ctx lg v.isSome cells i' = some p ∧ aggAccept d.agg p.2 = true := by
    rcases specRows_rows hspec with ⟨_, rfl⟩ | ⟨_, _, _, hgo⟩
    · exact absurd rfl hne
    · exact specRows_go_emit hgo hne
  have hl := specRow_len hrow
  simp only [specRow_eq, Option.bind_eq_some_iff] at hrow
  obtain ⟨r1, -, r2, h2, hrow⟩ := hrow
  cases hrow
  have hbm : b ∈ r1.2 ++ r2.2 :=
    List.mem_append_right _ (specRow_goBd_mem h2 hmem (by decide) (by rw [ha]; exact hholds))
  -- pushed only under "and", or when it is the one active filter
  simp only [pushAddrs, Bool.and_eq_true, Bool.or_eq_true] at hp
  refine himp (aggAccept_mem hacc hbm (hp.2.imp_right fun h => ?_))
  rw [beq_iff_eq] at h
  exact h ▸ hl

deriving instance DecidableEq for SpecOut

namespace Example

def sigTransfer : List Nat :=
  [0xdd,0xf2,0x52,0xad,0x1b,0xe2,0xc8,0x9b,0x69,0xc2,0xb0,0x68,0xfc,0x37,0x8d,0xaa,
   0x95,0x2b,0xa7,0xf1,0x63,0xc4,0xa1,0x16,0x28,0xf5,0x5a,0x4d,0xf5,0x23,0xb3,0xef]

/-- the token contract, `0xa0b8…eb48` -/
def token : List Nat :=
  [0xa0,0xb8,0x69,0x91,0xc6,0x21,0x8b,0x36,0xc1,0xd1,0x9d,0x4a,0x2e,0x9e,0xb0,0xce,0x36,0x06,0xeb,0x48]
def other : List Nat := List.replicate 20 0x11

def fromA : List Nat := List.replicate 19 0 ++ [0xaa]
def toA : List Nat := List.replicate 19 0 ++ [0xbb]
def pad32 (a : List Nat) : List Nat := List.replicate (32 - a.length) 0 ++ a
def valueW : List Nat := List.replicate 30 0 ++ [0x03, 0xe8]     -- 1000

/-- ERC-20 `Transfer(address indexed from, address indexed to, uint256 value)` selecting `to` and
    `value`, block fields `log_addr` (filter: contains the token address) and `abi_idx` -/
def transfer : Decl where
  inputs := .cons (.mk true false "address".toList .nil)
           (.cons (.mk true true "address".toList .nil)
           (.cons (.mk false true "uint256".toList .nil) .nil))
  inputFilters := [{}, {}]
  block := [("log_addr", { op := "contains", args := ["0xa0b86991c6218b36c1d19d4a2e9eb0ce3606eb48"] }),
            ("abi_idx", {})]
  agg := "and"
  sighash := sigTransfer

def ty : Ty := .tup (.cons (.stat (some 0)) .nil)
def val : Val := .tup (.cons (.word valueW) .nil)
def lg : Log := { topics := [sigTransfer, pad32 fromA, pad32 toA], data := valueW }
def ctxOf (addr : List Nat) : Ctx := [("log_addr", .bytes addr)]
def row : List DVal := [.bytes toA, .u256 1000, .bytes token, .int 0]

/-- the same event selecting only the indexed `to`, without `abi_idx`: the no-data path -/
def transferIx : Decl where
  inputs := .cons (.mk true false "address".toList .nil)
           (.cons (.mk true true "address".toList .nil)
           (.cons (.mk false false "uint256".toList .nil) .nil))
  inputFilters := [{}]
  block := [("log_addr", { op := "contains", args := ["0xa0b86991c6218b36c1d19d4a2e9eb0ce3606eb48"] })]
  agg := "and"
  sighash := sigTransfer
def tyIx : Ty := .tup (.cons (.stat none) .nil)
def lgIx : Log := { topics := [sigTransfer, pad32 fromA, pad32 toA], data := [] }

theorem ixOK_transfer : ixOK transfer.inputs = true := by decide +kernel

/-- The evaluations the examples rest on, in ONE kernel run: each of them decodes the filter's
    42-character argument, which the kernel does in quadratic time — and once per run. -/
theorem evals :
    specRows [] transfer (ctxOf token) lg ty (some val) = .rows [row] ∧
    pushedAddrs transfer = [token] ∧
    specRows [] transferIx (ctxOf token) lgIx tyIx none = .rows [[.bytes toA, .bytes token]] ∧
    processLog [] transfer (ctxOf token) lg (.ok (rowsOf ty val)) = .ok [row] ∧
    specRows [] transfer (ctxOf other) lg ty (some val) = .rows [] ∧
    processLog [] transfer (ctxOf other) lg (.ok (rowsOf ty val)) = .ok [] := by
  decide +kernel

theorem pushed_transfer : pushedAddrs transfer = [token] := evals.2.1

example : eventAbiType transfer.inputs = .ok ty := by rfl
example : ixOK transfer.inputs = true := ixOK_transfer
example : specRows [] transfer (ctxOf token) lg ty (some val) = .rows [row] := evals.1
example : processLog [] transfer (ctxOf token) lg (.ok (rowsOf ty val)) = .ok [row] := evals.2.2.2.1
/-- … and through the theorem: its hypotheses are satisfiable -/
example : processLog [] transfer (ctxOf token) lg (.ok (rowsOf ty val)) = .ok [row] :=
  processLog_spec [] transfer (ctxOf token) lg ty val [row] (by decide +kernel) ixOK_transfer evals.1

/-- a log of another contract: no row -/
example : specRows [] transfer (ctxOf other) lg ty (some val) = .rows [] := evals.2.2.2.2.1
example : processLog [] transfer (ctxOf other) lg (.ok (rowsOf ty val)) = .ok [] := evals.2.2.2.2.2
example : pushedAddrs transfer = [token] := pushed_transfer
example : token ∈ pushedAddrs transfer :=
  pushdown_sound [] transfer (ctxOf token) lg ty (some val) token (by decide +kernel) rfl
    [row] evals.1 (List.cons_ne_nil _ _) (pushed_transfer ▸ List.cons_ne_nil _ _)

example : specRows [] transferIx (ctxOf token) lgIx tyIx none = .rows [[.bytes toA, .bytes token]] := evals.2.2.1
example : processLog [] transferIx (ctxOf token) lgIx .err = .ok [[.bytes toA, .bytes token]] :=
  processLog_spec_nodata [] transferIx (ctxOf token) lgIx tyIx _ rfl (by decide +kernel) evals.2.2.1 .err

-- a log with a foreign signature hash, or with too few topics, contributes nothing
example : processLog [] transfer (ctxOf token) { topics := [pad32 toA, pad32 fromA, pad32 toA], data := valueW }
    (.ok (rowsOf ty val)) = .ok [] := by decide +kernel
example : processLog [] transfer (ctxOf token) { topics := [], data := valueW } (.ok (rowsOf ty val)) = .ok [] :=
  gate_reject_total _ _ _ _ _ (by decide +kernel)

-- the `ixOK` hypothesis is needed: an `indexed` mark below a non-indexed top-level input makes the
-- row builder read topic 0 (the signature hash) where the specification reads the own position
def badIx : Decl where
  inputs := .cons (.mk false false "tuple".toList (.cons (.mk true true "address".toList .nil) .nil)) .nil
  inputFilters := [{}]
  block := []
  agg := "and"
  sighash := sigTransfer
example : ixOK badIx.inputs = false := by decide +kernel
example : specRows [] badIx [] { topics := [sigTransfer], data := [] } (.tup .nil) none = .unspecified := by
  decide +kernel
example : processLog [] badIx [] { topics := [sigTransfer], data := [] } .err = .ok [[.bytes (sigTransfer.drop 12)]] := by
  decide +kernel

end Example

end Shovel.Row

#print axioms Shovel.Row.processLog_spec
#print axioms Shovel.Row.processLog_spec_nodata
#print axioms Shovel.Row.gate_only
#print axioms Shovel.Row.gate_reject_total
#print axioms Shovel.Row.agg_fold
#print axioms Shovel.Row.op_sem
#print axioms Shovel.Row.render_int
#print axioms Shovel.Row.dbtype_eq_renderSpec
#print axioms Shovel.Row.inputCols_ownTopic
#print axioms Shovel.Row.pushdown_sound
