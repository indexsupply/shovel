import Shovel.Props.Rows
/-
  C11 / C12 on the transaction- / trace-indexing path: `processTx` (`Shovel/Model/Row.lean`) against
  `specTxRows` (`Shovel/Spec/RowTx.lean`).  `processTx` is the specification made total
  (`processTx_eq`): the specified rows where it fixes them, an error where it does not;
  `processTx_spec`, `processTx_total` and `processTx_cells` are read off that equation.
-/
namespace Shovel.Row

theorem numSelected_pos (d : Decl) : d.numSelected > 0 ↔ hasSelected d = true := by
  rw [Decl.numSelected, inputCols_eq_selWithTop, List.length_map, hasSelected]
  cases selWithTop d.inputs 0 <;> simp

/-- an inactive filter has no verdict, so the evaluations may be taken over all columns -/
theorem txEvals_eq (refs : Refs) (d : Decl) (ctx : Ctx) :
    txEvals refs d ctx = d.block.filterMap fun p => holds refs p.2 (ctx.get p.1) := by
  rw [txEvals, List.filterMap_filter]
  congr 1
  funext p
  split
  · rfl
  · exact (holds_inactive _ _ _ (Bool.eq_false_iff.mpr ‹_›)).symm

theorem processTx_go_eq (refs : Refs) (ctx : Ctx) (block : List (String × Filter)) (frs : Frs) :
    processTx.go refs ctx block frs =
      if ((block.filterMap fun p => holds refs p.2 (ctx.get p.1)).all fun r => (truthOf r).isSome) then
        .ok (block.map fun p => ctx.get p.1,
          ((block.filterMap fun p => holds refs p.2 (ctx.get p.1)).filterMap truthOf).foldl Frs.add frs)
      else .err := by
  induction block generalizing frs with
  | nil => rfl
  | cons p rest ih =>
    simp only [processTx.go, accept_eq, List.filterMap_cons, List.map_cons]
    cases holds refs p.2 (ctx.get p.1) with
    | none =>
      simp only [Frs.addVerdict, ih]
      cases (rest.filterMap fun p => holds refs p.2 (ctx.get p.1)).all fun r => (truthOf r).isSome <;> rfl
    | some r =>
      cases r with
      | ok b =>
        simp only [Frs.addVerdict, ih, List.all_cons, truthOf.eq_1, Option.isSome_some, Bool.true_and,
          List.filterMap_cons, List.foldl_cons]
        cases (rest.filterMap fun p => holds refs p.2 (ctx.get p.1)).all fun r => (truthOf r).isSome <;> rfl
      | _ => simp [Frs.addVerdict, truthOf]

theorem processTx_eq (refs : Refs) (d : Decl) (ctx : Ctx) :
    processTx refs d ctx = match specTxRows refs d ctx with
      | .rows rs => .ok rs
      | .unspecified => .err := by
  unfold processTx specTxRows
  by_cases hs : hasSelected d = true
  · rw [if_pos ((numSelected_pos d).mpr hs), if_pos hs]
  rw [if_neg (mt (numSelected_pos d).mp hs), if_neg hs]
  by_cases he : d.block.isEmpty = true
  · rw [if_pos he, if_pos he]
  rw [if_neg he, if_neg he, processTx_go_eq, txEvals_eq]
  dsimp only
  cases (d.block.filterMap fun p => holds refs p.2 (ctx.get p.1)).all fun r => (truthOf r).isSome
  · rfl
  · simp only [if_true, agg_fold]
    rfl

/-- **processTx_spec** (C11, C12): tx and trace indexing: whenever the specification fixes the rows of an item, the
    model produces exactly those rows -/
theorem processTx_spec (refs : Refs) (d : Decl) (ctx : Ctx) (rows : List (List DVal))
    (h : specTxRows refs d ctx = .rows rows) : processTx refs d ctx = .ok rows := by
  rw [processTx_eq, h]

/-- **processTx_total** (C11): no declaration and no item makes `processTx` panic or over-read -/
theorem processTx_total (refs : Refs) (d : Decl) (ctx : Ctx) :
    processTx refs d ctx ≠ .panic ∧ processTx refs d ctx ≠ .overread := by
  rw [processTx_eq]
  cases specTxRows refs d ctx <;> exact ⟨nofun, nofun⟩

/-- **processTx_cells** (C11): an emitted row has one cell per block-data column, in declaration order, holding the
    item field the column names — whatever the filters are -/
theorem processTx_cells (refs : Refs) (d : Decl) (ctx : Ctx) (row : List DVal)
    (h : processTx refs d ctx = .ok [row]) : row = d.block.map (fun p => ctx.get p.1) := by
  rw [processTx_eq] at h
  revert h
  fun_cases specTxRows refs d ctx with
  | case1 | case2 | case4 => nofun
  -- the only branch of `specTxRows` with a row gives `txCells`
  | case3 =>
    dsimp only
    split <;> rintro ⟨⟩
    rfl
namespace ExampleTx

/-- `tx_input` must contain the ERC-20 `transfer` selector, `block_num` must exceed 100, `tx_hash`
    is carried without a filter -/
def declOf (agg : String) : Decl where
  inputs := .nil
  inputFilters := []
  block := [("tx_input", { op := "contains", args := ["0xa9059cbb"] }),
            ("block_num", { op := "gt", args := ["100"] }),
            ("tx_hash", {})]
  agg := agg
  sighash := []

def input : List Nat := [0xa9, 0x05, 0x9c, 0xbb, 0x00, 0x01]      -- transfer(...)
def inputOther : List Nat := [0x09, 0x5e, 0xa7, 0xb3, 0x00, 0x01] -- approve(...)
def hash : List Nat := [0xde, 0xad, 0xbe, 0xef]

/-- the item context; it carries more fields than the declaration names, in another order -/
def ctxOf (inp : List Nat) (num : Nat) : Ctx :=
  [("tx_hash", .bytes hash), ("tx_idx", .u64 7), ("block_num", .u64 num), ("tx_input", .bytes inp)]

def rowOf (inp : List Nat) (num : Nat) : List DVal := [.bytes inp, .u64 num, .bytes hash]

theorem spec_and_150 : specTxRows [] (declOf "and") (ctxOf input 150) = .rows [rowOf input 150] := by decide +kernel
theorem tx_and_150 : processTx [] (declOf "and") (ctxOf input 150) = .ok [rowOf input 150] := by decide +kernel
theorem spec_and_50 : specTxRows [] (declOf "and") (ctxOf input 50) = .rows [] := by decide +kernel

example : specTxRows [] (declOf "and") (ctxOf input 150) = .rows [rowOf input 150] := spec_and_150
example : processTx [] (declOf "and") (ctxOf input 150) = .ok [rowOf input 150] := tx_and_150
/-- … and through the theorem: its hypothesis is satisfiable -/
example : processTx [] (declOf "and") (ctxOf input 150) = .ok [rowOf input 150] :=
  processTx_spec [] (declOf "and") (ctxOf input 150) _ spec_and_150
example : rowOf input 150 = (declOf "and").block.map (fun p => (ctxOf input 150).get p.1) :=
  processTx_cells [] (declOf "and") (ctxOf input 150) _ tx_and_150

/-- rejected: the selector matches but the block number does not exceed 100 -/
example : specTxRows [] (declOf "and") (ctxOf input 50) = .rows [] := spec_and_50
example : processTx [] (declOf "and") (ctxOf input 50) = .ok [] := by decide +kernel
example : processTx [] (declOf "and") (ctxOf input 50) = .ok [] :=
  processTx_spec [] (declOf "and") (ctxOf input 50) _ spec_and_50

/-- the same item is emitted under "or": one filter holds -/
example : specTxRows [] (declOf "or") (ctxOf input 50) = .rows [rowOf input 50] := by decide +kernel
example : processTx [] (declOf "or") (ctxOf input 50) = .ok [rowOf input 50] := by decide +kernel
example : specTxRows [] (declOf "or") (ctxOf inputOther 150) = .rows [rowOf inputOther 150] := by decide +kernel
example : processTx [] (declOf "or") (ctxOf inputOther 150) = .ok [rowOf inputOther 150] := by decide +kernel
/-- rejected: no filter holds -/
example : specTxRows [] (declOf "or") (ctxOf inputOther 50) = .rows [] := by decide +kernel
example : processTx [] (declOf "or") (ctxOf inputOther 50) = .ok [] := by decide +kernel

-- a field the item does not carry is a NULL cell; a column list without filters is always emitted
def plain : Decl := { inputs := .nil, inputFilters := [], block := [("tx_hash", {}), ("trace_action_idx", {})],
                      agg := "", sighash := [] }
example : specTxRows [] plain (ctxOf input 1) = .rows [[.bytes hash, .null]] := by decide +kernel
example : processTx [] plain (ctxOf input 1) = .ok [[.bytes hash, .null]] := by decide +kernel

-- an event declaration (selected inputs), or one without block columns, yields nothing here
def withInput : Decl := { declOf "and" with inputs := .cons (.mk false true "uint256".toList .nil) .nil }
example : specTxRows [] withInput (ctxOf input 150) = .rows [] := by decide +kernel
example : processTx [] withInput (ctxOf input 150) = .ok [] := by decide +kernel
example : specTxRows [] { declOf "and" with block := [] } (ctxOf input 150) = .rows [] := by decide +kernel

-- an unparsable filter argument: the specification leaves the outcome open, the model errs (and,
-- by `processTx_total`, never panics)
def badArg : Decl := { declOf "and" with block := [("block_num", { op := "gt", args := ["0x64"] })] }
example : specTxRows [] badArg (ctxOf input 150) = .unspecified := by decide +kernel
example : processTx [] badArg (ctxOf input 150) = .err := by decide +kernel

end ExampleTx

end Shovel.Row

#print axioms Shovel.Row.processTx_spec
#print axioms Shovel.Row.processTx_total
#print axioms Shovel.Row.processTx_cells
