import Shovel.Props.Insert
/-
  C12, second half, over whole batches: "the address restriction sent to the source is only an
  optimisation: it never excludes a log that the declared filters would accept".
  `eth_getLogs` returns only the logs whose address is one of the pushed addresses; `restrict` is that
  server-side selection applied to a batch.  `specInsert_pushdown`: whenever the property fixes the rows of the
  full batch, it fixes the SAME rows for the restricted batch — and (`insert_pushdown`) `Insert` on the
  restricted batch writes exactly the rows it would have written on the full one.
-/
namespace Shovel.Insert
open Shovel.Row Shovel.Abi

/-- what the source returns under the address restriction `pushed` (none: everything) -/
def restrict (addr : ALog → List Nat) (pushed : List (List Nat)) (blocks : List ABlock) : List ABlock :=
  if pushed.isEmpty then blocks
  else blocks.map fun b => { b with txs := b.txs.map fun t =>
    { t with logs := t.logs.filter fun l => pushed.contains (addr l) } }

/-- a log whose address is not pushed produces no rows (contrapositive of `pushdown_sound`) -/
theorem specLog_unpushed (refs : Refs) (d : Decl) (ty : Ty) (ctx : Ctx) (l : ALog) (a : List Nat)
    (ha : ctx.get "log_addr" = .bytes a) (hlen : a.length = 20) (hpush : pushedAddrs d ≠ [])
    (hnot : (pushedAddrs d).contains a = false) (rs : List (List DVal))
    (h : specLog refs d ty ctx l = .rows rs) : rs = [] := by
  rcases specLog_rows h with h | ⟨v, hv⟩
  · exact h
  · apply Decidable.byContradiction
    intro hne
    have := pushdown_sound refs d ctx _ ty v a ha hlen rs hv hne hpush
    rw [← List.contains_iff_mem, hnot] at this
    cases this

/-- every log of the batch carries its 20-byte address in the field the filter reads -/
def AddrOK (addr : ALog → List Nat) (base : Ctx) (blocks : List ABlock) : Prop :=
  ∀ b ∈ blocks, ∀ t ∈ b.txs, ∀ l ∈ t.logs,
    Ctx.get (l.fields ++ (t.fields ++ (b.fields ++ base))) "log_addr" = .bytes (addr l) ∧ (addr l).length = 20

/-- **specInsert_pushdown** (C12): in log mode, restricting a batch to the pushed addresses does not change
    the rows the property demands -/
theorem specInsert_pushdown (refs : Refs) (d : Decl) (ty : Ty) (base : Ctx) (addr : ALog → List Nat) :
    ∀ (blocks : List ABlock) (rs : List (List DVal)), AddrOK addr base blocks →
      specInsert refs d ty .log base blocks = some rs →
      specInsert refs d ty .log base (restrict addr (pushedAddrs d) blocks) = some rs := by
  intro blocks rs haddr h
  unfold restrict
  split
  · exact h
  rename_i hp
  have hpush : pushedAddrs d ≠ [] := fun e => hp (e ▸ rfl)
  simp only [specInsert, specItems_eq, List.flatMap_map] at h ⊢
  refine joinSpec_flatMap_mono blocks rs (fun b hb r hr => ?_) h
  refine joinSpec_flatMap_mono b.txs r (fun t ht q hq => ?_) hr
  refine joinSpec_filter _ _ t.logs q hq fun l hl hk rs' hs => ?_
  obtain ⟨a1, a2⟩ := haddr b hb t ht l hl
  exact specLog_unpushed refs d ty _ l (addr l) a1 a2 hpush hk rs' hs

/-- **insert_pushdown** (C12): end to end, `Insert` on the batch as the source returns it under the address
    restriction writes exactly the rows the property demands of the FULL batch -/
theorem insert_pushdown (refs : Refs) (d : Decl) (ty : Ty) (hd : DeclOK d ty) (base : Ctx) (addr : ALog → List Nat)
    (blocks : List ABlock) (s : St) (hs : WF s ty.nsel) (hok : BatchOK d ty (restrict addr (pushedAddrs d) blocks))
    (haddr : AddrOK addr base blocks) (rs : List (List DVal))
    (h : specInsert refs d ty .log base blocks = some rs) :
    ∃ s', insert refs d ty .log base ((restrict addr (pushedAddrs d) blocks).map (ABlock.toE ty)) s = .ok (rs, s') ∧
      WF s' ty.nsel :=
  insert_exact refs d ty hd .log base _ s hs hok rs (specInsert_pushdown refs d ty base addr blocks rs haddr h)

-- the example batch of `Props/Insert.lean`; the restriction is the token's address, the source then
-- withholds the transfer of the OTHER token — which the filter would have rejected anyway
namespace Example
open Shovel.Row.Example

def addrOf (l : ALog) : List Nat := match Ctx.get l.fields "log_addr" with | .bytes a => a | _ => []

example : pushedAddrs transfer = [token] := pushed_transfer
example : ((restrict addrOf (pushedAddrs transfer) batch).flatMap fun b => b.txs.flatMap fun t => t.logs.map addrOf) =
    [token, token, token] := by rw [pushed_transfer]; decide +kernel
example : AddrOK addrOf [] batch := by
  unfold AddrOK; decide +kernel
example : specInsert [] transfer ty .log [] (restrict addrOf (pushedAddrs transfer) batch) = some want := by
  rw [pushed_transfer]; decide +kernel

end Example

end Shovel.Insert

#print axioms Shovel.Insert.specInsert_pushdown
#print axioms Shovel.Insert.insert_pushdown
