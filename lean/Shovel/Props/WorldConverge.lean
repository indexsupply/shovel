import Shovel.Props.WorldProgress
/-
  C01 / C02 / C03 end to end: CONVERGENCE of the world model `converge`.

  One-step safety (`inv_step`, `unwind_step`) and the liveness of healthy steps (`reaches_head`)
  combined over whole histories.

  The chain `c` is FIXED during the troubled period (as in `inv_step`): "growing only" is modelled
  by the source being allowed to report any block number up to `c.head` as its head (`ScriptOK`).
-/
namespace Shovel.World

/-- a troubled period: a sequence of steps, each with its own answer script and its own fault
    (or none); the database after a step is what the step left committed -/
def troubled (t : Task) (steps : List (Script × Option Pos)) (db : DB) : DB :=
  steps.foldl (fun db p => (converge t db p.1 p.2).db) db

/-- every script of the period consists of honest-or-failed answers about the ONE chain `c`
    (fixed during the period; the head reported may lag) -/
def AllOK (c : Chain) (steps : List (Script × Option Pos)) : Prop :=
  ∀ p ∈ steps, ScriptOK c p.1

theorem troubled_nil (t : Task) (db : DB) : troubled t [] db = db := rfl

theorem troubled_cons (t : Task) (p : Script × Option Pos) (steps : List (Script × Option Pos)) (db : DB) :
    troubled t (p :: steps) db = troubled t steps (converge t db p.1 p.2).db := rfl

theorem troubled_append (t : Task) (a b : List (Script × Option Pos)) (db : DB) :
    troubled t (a ++ b) db = troubled t b (troubled t a db) := by
  unfold troubled; rw [List.foldl_append]

/-- **troubled_inv** (C01, C02): ANY number of steps with ANY faults at ANY positions and ANY
    failing source answers leaves the invariant (and the unique-key hypothesis) intact. -/
theorem troubled_inv (t : Task) (c : Chain) (steps : List (Script × Option Pos)) (db : DB)
    (hc : c.WF) (hstart : 0 < t.start) (hb : 1 ≤ t.batch) (hcc : 1 ≤ t.conc) (hcb : t.conc * t.batch < 2 ^ 63)
    (hhead : c.head < 2 ^ 62) (hdeps : t.deps = []) (hinv : Inv t c (t.start - 1) db) (hk : KeysOK t c db)
    (hall : AllOK c steps) :
    Inv t c (t.start - 1) (troubled t steps db) ∧ KeysOK t c (troubled t steps db) := by
  exact List.foldlRecOn (motive := fun d : DB => Inv t c (t.start - 1) d ∧ KeysOK t c d) steps _ ⟨hinv, hk⟩
    fun d ⟨hi, hk⟩ p hp =>
      ⟨(inv_step t c d p.1 p.2 hc (hall p hp) hstart hb hcc hcb hhead hdeps hi hk).1, keysOK_step t c d p.1 p.2 hk⟩

/-- the sharper bound: `head - pos'` healthy steps suffice, `pos'` the position after the period -/
theorem converges_despite_faults' (t : Task) (c : Chain) (steps : List (Script × Option Pos)) (db : DB)
    (hc : c.WF) (hstart : 0 < t.start) (hb : 1 ≤ t.batch) (hcc : 1 ≤ t.conc) (hcb : t.conc * t.batch < 2 ^ 63)
    (hhead : c.head < 2 ^ 62) (hdeps : t.deps = []) (hinv : Inv t c (t.start - 1) db) (hk : KeysOK t c db)
    (hall : AllOK c steps) (hstop : t.stop = 0) (hsh : t.start - 1 ≤ c.head) :
    ∀ m, c.head - (topOf ((troubled t steps db).cur.filter (mineC t))).getD (t.start - 1) ≤ m →
      let db' := run t c m (troubled t steps db)
      Inv t c (t.start - 1) db' ∧ KeysOK t c db' ∧
      (topOf (db'.cur.filter (mineC t))).getD (t.start - 1) = c.head ∧
      db'.rows.filter (mine t) = (c.slice t.start (c.head - (t.start - 1))).flatMap (rowsFor t) := by
  intro m hm
  obtain ⟨i1, k1⟩ := troubled_inv t c steps db hc hstart hb hcc hcb hhead hdeps hinv hk hall
  exact reaches_head t c (troubled t steps db) hc hstart hb hcc hcb hhead hdeps i1 k1 hstop hsh m hm

/-- **converges_despite_faults** (C01, C02): on a growing-only chain `c`, with no stop
    configured, from any state satisfying the invariant (e.g. the empty database): after ANY
    troubled period — crashes, dropped connections, failed or lagging RPC answers, at any point of
    any step, any number of times — `m ≥ head - (start - 1)` fault-free steps against the canonical
    healthy source (`run`, as in `reaches_head`; `head - pos'` suffice, `pos'` the position after the
    period: `converges_despite_faults'`) give a database whose position is the head and whose rows
    of this task are EXACTLY the projection of blocks `start..head`: every block in range indexed
    exactly once, in order. -/
theorem converges_despite_faults (t : Task) (c : Chain) (steps : List (Script × Option Pos)) (db : DB)
    (hc : c.WF) (hstart : 0 < t.start) (hb : 1 ≤ t.batch) (hcc : 1 ≤ t.conc) (hcb : t.conc * t.batch < 2 ^ 63)
    (hhead : c.head < 2 ^ 62) (hdeps : t.deps = []) (hinv : Inv t c (t.start - 1) db) (hk : KeysOK t c db)
    (hall : AllOK c steps) (hstop : t.stop = 0) (hsh : t.start - 1 ≤ c.head) :
    ∀ m, c.head - (t.start - 1) ≤ m →
      let db' := run t c m (troubled t steps db)
      Inv t c (t.start - 1) db' ∧ KeysOK t c db' ∧
      (topOf (db'.cur.filter (mineC t))).getD (t.start - 1) = c.head ∧
      db'.rows.filter (mine t) = (c.slice t.start (c.head - (t.start - 1))).flatMap (rowsFor t) := by
  intro m hm
  have : t.start - 1 ≤ (topOf ((troubled t steps db).cur.filter (mineC t))).getD (t.start - 1) :=
    (troubled_inv t c steps db hc hstart hb hcc hcb hhead hdeps hinv hk hall).1.pos_ge.1
  exact converges_despite_faults' t c steps db hc hstart hb hcc hcb hhead hdeps hinv hk hall hstop hsh m (by omega)

/-- **converges_after_reorg** (C03): under the hypotheses of `unwind_step`, after the
    unwinding step followed by `m ≥ head - (start - 1)` steps of `run` the position is the head
    and the task's rows are EXACTLY the projection of `c` over `start..head` — which is the OLD
    rows of blocks up to the fork `g`, untouched, followed by the projection of `c`'s blocks
    `g+1..head`: the orphaned rows are gone, the replacing rows are present once. -/
theorem converges_after_reorg (t : Task) (c : Chain) (db : DB) (sc : Script) (g : Cur)
    (hc : c.WF) (hsc : ScriptOK c sc) (hstart : 0 < t.start) (hb : 1 ≤ t.batch) (hcc : 1 ≤ t.conc)
    (hcb : t.conc * t.batch < 2 ^ 63) (hhead : c.head < 2 ^ 62) (hdeps : t.deps = []) (hstop : t.stop = 0)
    (hnodup : ((db.cur.filter (mineC t)).map (·.num)).Nodup)
    (hg : g ∈ db.cur.filter (mineC t))
    (hbelow : ∀ x ∈ db.cur.filter (mineC t), x.num ≤ g.num →
      t.start - 1 < x.num ∧ x.num ≤ c.head ∧ x.hash = c.hashAt x.num)
    (habove : ∀ x ∈ db.cur.filter (mineC t), g.num < x.num → x.hash ≠ c.hashAt x.num)
    (hcount : ((db.cur.filter (mineC t)).filter fun x => g.num < x.num).length ≤ 1000)
    (hrows : (db.rows.filter fun r => mine t r && decide (r.blk ≤ g.num)) =
      (c.slice t.start (g.num - (t.start - 1))).flatMap (rowsFor t))
    (hk : KeysOK t c { db with rows := db.rows.filter fun r => !(mine t r && decide (g.num < r.blk)) })
    (hnone : (∀ x ∈ db.cur.filter (mineC t), x.num ≤ g.num) → ∀ r ∈ db.rows, mine t r = true → r.blk ≤ g.num)
    (hgrow : ∀ x ∈ db.cur.filter (mineC t), x.num < c.head)
    (hhonest : (∀ a ∈ sc.latest, a = some (c.head, c.hashAt c.head)) ∧ (∀ p ∈ sc.hash, p.2 ≠ none) ∧
      (∀ q ∈ sc.gets, q.2 ≠ none))
    (hok : (converge t db sc none).scriptOk = true) :
    ∀ m, c.head - (t.start - 1) ≤ m →
      let db' := run t c m (converge t db sc none).db
      Inv t c (t.start - 1) db' ∧ KeysOK t c db' ∧
      (topOf (db'.cur.filter (mineC t))).getD (t.start - 1) = c.head ∧
      db'.rows.filter (mine t) = (c.slice t.start (c.head - (t.start - 1))).flatMap (rowsFor t) ∧
      db'.rows.filter (mine t) =
        (db.rows.filter fun r => mine t r && decide (r.blk ≤ g.num)) ++
          (c.slice (g.num + 1) (c.head - g.num)).flatMap (rowsFor t) := by
  intro m hm
  obtain ⟨_, i1, _⟩ := unwind_step t c db sc g hc hsc hstart hb hcc hcb hhead hdeps hstop hnodup hg hbelow habove
    hcount hrows hk hnone hgrow hhonest hok
  have k1 : KeysOK t c (converge t db sc none).db := keysOK_step t c db sc none (keysOK_of_filter_mine hk)
  obtain ⟨g1, g2, _⟩ := hbelow g hg (Nat.le_refl _)
  have hsh : t.start - 1 ≤ c.head := by omega
  have : t.start - 1 ≤ (topOf ((converge t db sc none).db.cur.filter (mineC t))).getD (t.start - 1) := i1.pos_ge.1
  obtain ⟨r1, r2, r3, r4⟩ :=
    reaches_head t c (converge t db sc none).db hc hstart hb hcc hcb hhead hdeps i1 k1 hstop hsh m (by omega)
  refine ⟨r1, r2, r3, r4, ?_⟩
  rw [r4, hrows, ← List.flatMap_append, ← Nat.sub_add_sub_cancel g2 (Nat.le_of_lt g1), Nat.add_comm (c.head - g.num),
    slice_append, show t.start + (g.num - (t.start - 1)) = g.num + 1 by omega]

/-- `troubled` over `convergeNL` (Proofs/WorldEval.lean), for evaluation -/
def troubledNL (t : Task) (steps : List (Script × Option Pos)) (db : DB) : DB :=
  steps.foldl (fun db p => (convergeNL t db p.1 p.2).db) db

theorem troubled_eq_NL {c : Chain} (hc : c.WF) {steps : List (Script × Option Pos)} (hall : AllOK c steps)
    (t : Task) (db : DB) : troubled t steps db = troubledNL t steps db := by
  induction steps generalizing db with
  | nil => exact troubled_nil t db
  | cons p rest ih =>
    rw [troubled_cons, converge_eq_NL ((hall p (List.mem_cons_self ..)).len64 hc),
      ih fun q hq => hall q (List.mem_cons_of_mem _ hq)]
    rfl

namespace Ex

/-- an honest source whose `Get` fails -/
def scFail : Script := { sc1 with gets := [((1, 1), none)] }

theorem scFail_ok : ScriptOK c6 scFail := scriptOKb_sound _ _ (by decide +kernel)

/-- an honest source that lags: it reports block 1 as its head -/
def scLag : Script := { latest := [some (1, c6.hashAt 1)], hash := [], gets := [] }

theorem scLag_ok : ScriptOK c6 scLag := scriptOKb_sound _ _ (by decide +kernel)

/-- a troubled period of `t1` on `c6`, starting at `db0`:
    1. a healthy source, but the process dies at the commit of the second transaction;
    2. no fault, but the source fails a `Get`;
    3. a step that succeeds (blocks 1, 2);
    4. a healthy source, but the connection drops at the insert;
    5. a source whose reported head lags behind the recorded position (block 1 < 2): `ahead`;
    6. the database fails the very first query of the step. -/
def period : List (Script × Option Pos) :=
  [(Script.full c6 t1 0, some .commit2), (scFail, none), (Script.full c6 t1 0, none),
   (Script.full c6 t1 2, some .insert), (scLag, none), (scFail, some (.qlatest 0))]

theorem period_ok : AllOK c6 period := by
  intro p hp
  simp only [period, List.mem_cons, List.not_mem_nil, or_false] at hp
  rcases hp with rfl | rfl | rfl | rfl | rfl | rfl
  · exact Script.full_scriptOK c6 t1 0 (by decide +kernel)
  · exact scFail_ok
  · exact Script.full_scriptOK c6 t1 0 (by decide +kernel)
  · exact Script.full_scriptOK c6 t1 2 (by decide +kernel)
  · exact scLag_ok
  · exact scFail_ok

/-- the hypotheses of `troubled_inv` are jointly satisfiable, so its conclusion applies … -/
example : Inv t1 c6 (t1.start - 1) (troubled t1 period db0) ∧ KeysOK t1 c6 (troubled t1 period db0) :=
  troubled_inv t1 c6 period db0 c6_wf (by decide) (by decide) (by decide) (by decide) (by decide +kernel) rfl
    (by decide +kernel) (by decide +kernel) period_ok

/-- … the individual steps of the period do what their description says … -/
example :
    (converge t1 db0 (Script.full c6 t1 0) (some .commit2)).outcome = .err ∧
    (converge t1 db0 (Script.full c6 t1 0) (some .commit2)).db = db0 ∧
    (converge t1 db0 scFail none).outcome = .err ∧ (converge t1 db0 scFail none).db = db0 ∧
    (converge t1 db0 (Script.full c6 t1 0) none).outcome = .ok 2 ∧
    (converge t1 (converge t1 db0 (Script.full c6 t1 0) none).db (Script.full c6 t1 2) (some .insert)).outcome = .err ∧
    (converge t1 (converge t1 db0 (Script.full c6 t1 0) none).db scLag none).outcome = .ahead ∧
    (converge t1 (converge t1 db0 (Script.full c6 t1 0) none).db scFail (some (.qlatest 0))).outcome = .err := by
  simp only [fun pos db f => converge_eq_NL (Script.full_len64 c6_wf t1 pos) t1 db f,
    converge_eq_NL (scFail_ok.len64 c6_wf), converge_eq_NL (scLag_ok.len64 c6_wf)]
  decide +kernel

/-- … and the period as a whole leaves blocks 1 and 2 indexed once, nothing else -/
example : troubled t1 period db0 =
    { cur := [{ src := "s", ig := "i", num := 2, hash := hx '2' }], rows := [foreign, row 1 "k1", row 2 "k2"] } := by
  rw [troubled_eq_NL c6_wf period_ok]; decide +kernel

/-- the hypotheses of `converges_despite_faults` are jointly satisfiable (`m = head - (start-1) = 5`) … -/
example : Inv t1 c6 (t1.start - 1) (run t1 c6 5 (troubled t1 period db0)) ∧
    KeysOK t1 c6 (run t1 c6 5 (troubled t1 period db0)) ∧
    (topOf ((run t1 c6 5 (troubled t1 period db0)).cur.filter (mineC t1))).getD (t1.start - 1) = c6.head ∧
    (run t1 c6 5 (troubled t1 period db0)).rows.filter (mine t1) =
      (c6.slice t1.start (c6.head - (t1.start - 1))).flatMap (rowsFor t1) :=
  converges_despite_faults t1 c6 period db0 c6_wf (by decide) (by decide) (by decide) (by decide) (by decide +kernel) rfl
    (by decide +kernel) (by decide +kernel) period_ok rfl (by decide +kernel) 5 (by decide +kernel)

/-- … and the concrete run after the troubled period really ends in the full projection: positions
    2, 4, 5, the rows of blocks 1..5 once each in order, the other integration's row untouched —
    the same database as the run without any trouble (`run t1 c6 5 db0`); 2 healthy steps suffice
    (`head - pos' = 3` is the guaranteed bound) -/
example : run t1 c6 5 (troubled t1 period db0) =
      { cur := [{ src := "s", ig := "i", num := 2, hash := hx '2' }, { src := "s", ig := "i", num := 4, hash := hx '4' },
                { src := "s", ig := "i", num := 5, hash := hx '5' }],
        rows := [foreign, row 1 "k1", row 2 "k2", row 3 "k3", row 4 "k4", row 5 "k5"] } ∧
    run t1 c6 5 (troubled t1 period db0) = run t1 c6 5 db0 ∧
    run t1 c6 2 (troubled t1 period db0) = run t1 c6 5 (troubled t1 period db0) ∧
    (run t1 c6 5 (troubled t1 period db0)).rows.filter (mine t1) =
      [row 1 "k1", row 2 "k2", row 3 "k3", row 4 "k4", row 5 "k5"] := by
  simp only [run, step_eq_NL c6_wf, troubled_eq_NL c6_wf period_ok]; decide +kernel

/-- trouble may also strike between healthy steps: period, one healthy step, the period again
    (now every step of it errs or finds nothing matching), then healthy steps -/
example : run t1 c6 5 (troubled t1 period (run t1 c6 1 (troubled t1 period db0))) = run t1 c6 5 db0 := by
  simp only [run, step_eq_NL c6_wf, troubled_eq_NL c6_wf period_ok]; decide +kernel

/-- the hypotheses of `converges_after_reorg` hold for the reorged state `dbR` (positions 2
    canonical and 4 orphaned, rows of the orphaned blocks 3 and 4), so its conclusion applies … -/
example :
    let db' := run t1 c6 5 (converge t1 dbR scR none).db
    Inv t1 c6 (t1.start - 1) db' ∧ KeysOK t1 c6 db' ∧
    (topOf (db'.cur.filter (mineC t1))).getD (t1.start - 1) = c6.head ∧
    db'.rows.filter (mine t1) = (c6.slice t1.start (c6.head - (t1.start - 1))).flatMap (rowsFor t1) ∧
    db'.rows.filter (mine t1) =
      (dbR.rows.filter fun r => mine t1 r && decide (r.blk ≤ g2.num)) ++
        (c6.slice (g2.num + 1) (c6.head - g2.num)).flatMap (rowsFor t1) :=
  converges_after_reorg t1 c6 dbR scR g2 c6_wf scR_ok (by decide) (by decide) (by decide) (by decide)
    (by decide +kernel) rfl rfl (by decide +kernel) (by decide +kernel) (by decide +kernel) (by decide +kernel)
    (by decide +kernel) (by decide +kernel) (by decide +kernel) (by decide +kernel) (by decide +kernel)
    (by decide +kernel) dbR_step.2.2.2 5 (by decide +kernel)

/-- … and the concrete run: the orphaned position 4 (hash `d`) and rows `o3`, `o4` are gone, the
    canonical rows `k3`, `k4`, `k5` are present once, rows `k1`, `k2` below the fork and the other
    integration's row are untouched; one healthy step after the unwinding step suffices -/
example : run t1 c6 5 (converge t1 dbR scR none).db =
      { cur := [g2, { src := "s", ig := "i", num := 4, hash := hx '4' }, { src := "s", ig := "i", num := 5, hash := hx '5' }],
        rows := [row 1 "k1", row 2 "k2", foreign, row 3 "k3", row 4 "k4", row 5 "k5"] } ∧
    run t1 c6 1 (converge t1 dbR scR none).db = run t1 c6 5 (converge t1 dbR scR none).db ∧
    (run t1 c6 5 (converge t1 dbR scR none).db).rows.filter (mine t1) =
      [row 1 "k1", row 2 "k2", row 3 "k3", row 4 "k4", row 5 "k5"] := by
  simp only [dbR_step.2.1, run, step_eq_NL c6_wf]; decide +kernel

/-- trouble after the reorg as well: the unwinding step, a troubled period, healthy steps -/
example : (run t1 c6 5 (troubled t1 period (converge t1 dbR scR none).db)).rows.filter (mine t1) =
    [row 1 "k1", row 2 "k2", row 3 "k3", row 4 "k4", row 5 "k5"] := by
  simp only [dbR_step.2.1, run, step_eq_NL c6_wf, troubled_eq_NL c6_wf period_ok]; decide +kernel

end Ex

end Shovel.World

#print axioms Shovel.World.troubled_inv
#print axioms Shovel.World.converges_despite_faults
#print axioms Shovel.World.converges_despite_faults'
#print axioms Shovel.World.converges_after_reorg
