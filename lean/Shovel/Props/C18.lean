import Shovel.Model.Race
/-
  C18 — the concurrent indexing pipeline is free of data races (PARTIAL by nature: the Go memory
  model, the runtime and library internals are not modelled; see DESIGN.md).
  What is proved:
   • `discipline_*` (kernel evaluation over the event sequences regenerated from the Go source on
     every run): every write to a location shared between goroutines happens with the mutex that
     guards that location held — removing or moving a Lock/Unlock re-opens these.
   • `lockset_sound` (Props/C18Lockset.lean): in every well-formed trace two accesses that both
     hold a common lock are ordered by happens-before.
   • `head_cache_encapsulated`, `plan_immutable`, `client_config_immutable`: what is shared WITHOUT a lock
     is reached through locked methods only, or is never written after construction.
  What is checked dynamically: the race detector over the real pipeline (harness, -race).
-/
namespace Shovel.Race
open Shovel.Gen.Locks

/-- **discipline_cache** (C18): the segment cache: the map under the cache mutex, a segment's fields under the segment mutex -/
theorem discipline_cache :
    (guarded "jrpc2.cache.get" ["c.segments"] "c" && guarded "jrpc2.cache.get" ["seg.nreads", "seg.d", "seg.done"] "seg") = true := by
  decide +kernel

/-- **discipline_head** (C18): the head cache: every field under its own mutex, in all three methods -/
theorem discipline_head :
    (guarded "jrpc2.NumHash.error" ["nh."] "nh" && guarded "jrpc2.NumHash.update" ["nh."] "nh" &&
     guarded "jrpc2.NumHash.get" ["nh."] "nh") = true := by
  decide +kernel

/-- **discipline_blocks** (C18): blocks of shared cached segments: transactions, logs, trace actions, receipt fields and the
    block hash are written under the block's mutex by all three attach paths -/
theorem discipline_blocks :
    (guarded "jrpc2.Client.logs" ["tx.", "b.Header.Hash"] "b" &&
     guarded "jrpc2.Client.receipts" ["tx.", "b.Header.Hash"] "b" &&
     guarded "jrpc2.Client.traces" ["tx.", "block.Header.Hash", "ta."] "block") = true := by
  decide +kernel

/-- **discipline_task** (C18): the partition goroutines append to the shared result under `blocksMut` and assign nothing else
    that is shared (in particular not the captured `ctx`); the transaction hash cache has its own mutex -/
theorem discipline_task :
    (guarded "shovel.Task.load" ["blocks"] "blocksMut" &&
     ((writesOf "shovel.Task.load").filter (·.2.2)).all (fun w => w.1 == "blocks") &&
     ((writesOf "shovel.Task.insert").filter (·.2.2)).isEmpty &&
     guarded "eth.Tx.Hash" ["tx.PrecompHash"] "tx.cacheMut") = true := by
  decide +kernel

/-- **discipline_manager** (C18): the manager: the task list and the generation channel are written by `Run` with `running` held;
    `Restart` holds `restartMut` throughout -/
theorem discipline_manager :
    (guarded "shovel.Manager.Run" ["tm.tasks", "tm.restart"] "tm.running" &&
     (match events.find? (·.1 == "shovel.Manager.Restart") with
      | some e => e.2.take 2 == [.lock "tm.restartMut", .deferUnlock "tm.restartMut"]
      | none => false)) = true := by
  decide +kernel

/-- **discipline_reads** (C18): memoised and cached state is also only READ with its mutex held: the transaction hash memo (no
    lock-free fast path), every field of the head cache in `get`, a segment's `done`/`d`/`nreads`
    under the segment mutex and the segment map under the cache mutex -/
theorem discipline_reads :
    (guardedReads "eth.Tx.Hash" ["tx.PrecompHash"] "tx.cacheMut" &&
     guardedReads "jrpc2.NumHash.get" ["nh."] "nh" &&
     guardedReads "jrpc2.cache.get" ["seg."] "seg" &&
     guardedReads "jrpc2.cache.get" ["c.segments"] "c") = true := by
  decide +kernel

/-- **head_cache_encapsulated** (C18): outside the methods of `NumHash` (which take its mutex first — `discipline_head`,
    `discipline_reads`), `jrpc2/client.go` touches the shared head cache only through those methods; the one direct
    field access is the `WithMaxReads` option, applied while the client is being built, before it is shared.
    (Regenerated from the source: a lock-free peek at `c.lcache.Num` from the poller, the listener or `Latest`
    shows up as a further entry.) -/
theorem head_cache_encapsulated : lcacheDirect = ["WithMaxReads: c.lcache.maxreads"] := rfl

/-- **plan_immutable** (C18): a data plan (`*glf.Filter`) is handed to every partition goroutine of a step and
    formatted by their log calls; none of its methods assigns to it (no lazily filled or memoised field). -/
theorem plan_immutable : planWrites = [] := rfl

/-- **client_config_immutable** (C18): the fields of a `jrpc2.Client` itself (its URLs, the websocket URL, the poll
    duration, the debug switch) are read without a lock by every task goroutine sharing the client and by the
    background head feed; after construction (`New`, the `With…` builders) no method assigns any of them — so
    those reads race with nothing. (Regenerated from the source: e.g. a listener that clears `c.wsurl` to fall
    back to polling shows up as an entry.) -/
theorem client_config_immutable : clientWrites = [] := rfl

end Shovel.Race
