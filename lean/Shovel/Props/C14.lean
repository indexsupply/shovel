import Shovel.Model.Plan
/-
  C14 — every selectable field is actually fetched.
  The theorems are about the GENERATED planner tables (Gen/Glf.lean, Gen/Fields.lean are rewritten
  from /repo's source on every run), so editing a list or the step chain re-opens the obligations.
  Hand-written and trusted (checked end to end by the correspondence run): `Plan.supplies`,
  `Plan.contextFields` (Model/Plan.lean), `fetchFor` below, `armFetch` and `allFlags`
  (Props/C14b.lean).
-/
namespace Shovel.Plan

/-- every non-trigger member of a step's list is a member of a later step's list -/
def WellOrdered : List RStep → Bool
  | [] => true
  | st :: rest => st.xs.all (fun x => st.ds.contains x || rest.any fun r => r.xs.contains x) && WellOrdered rest

theorem mem_difference {x : String} {ours : List String} {others : List (List String)} :
    x ∈ difference ours others ↔ x ∈ ours ∧ ∀ o ∈ others, x ∉ o := by
  simp [difference, List.mem_filter]

theorem anyIn_false {a b : List String} (h : anyIn a b = false) {x : String} (hx : x ∈ a) : x ∉ b := by
  intro hb
  have : anyIn a b = true := by
    simp only [anyIn, List.any_eq_true]
    exact ⟨x, hx, by simpa using hb⟩
  rw [h] at this; contradiction

/-- **planFrom_covers** (C14): for any lists and any needs, a needed field that occurs in some
    step's list ends up in the list of a step whose flag is set. -/
theorem planFrom_covers (steps : List RStep) (hwo : WellOrdered steps = true) (needs : List String)
    (f : String) (hf : f ∈ needs) (hx : ∃ st ∈ steps, f ∈ st.xs) :
    ∃ st ∈ steps, st.flag ∈ planFrom steps needs ∧ f ∈ st.xs := by
  induction steps generalizing needs with
  | nil => obtain ⟨st, hst, _⟩ := hx; simp at hst
  | cons st rest ih =>
    simp only [WellOrdered, Bool.and_eq_true, List.all_eq_true] at hwo
    obtain ⟨hhead, hrest⟩ := hwo
    have later : f ∉ st.xs → ∃ s ∈ rest, f ∈ s.xs := by
      intro hfx
      obtain ⟨s, hs, hfs⟩ := hx
      rcases List.mem_cons.mp hs with rfl | hs
      · exact absurd hfs hfx
      · exact ⟨s, hs, hfs⟩
    unfold planFrom
    split
    · by_cases hfx : f ∈ st.xs
      · exact ⟨st, by simp, by simp, hfx⟩
      · obtain ⟨s, hs, hflag, hfs⟩ := ih hrest (difference needs [st.xs])
          (mem_difference.2 ⟨hf, by simpa using hfx⟩) (later hfx)
        exact ⟨s, by simp [hs], by simp [hflag], hfs⟩
    · rename_i hany
      -- the step does not fire: `f` is no trigger of it, so if it is in its list a later list has it
      have hx' : ∃ s ∈ rest, f ∈ s.xs := by
        by_cases hfx : f ∈ st.xs
        · have := hhead f hfx
          simp only [Bool.or_eq_true, List.contains_iff_mem, List.any_eq_true] at this
          rcases this with h | ⟨r, hr, hfr⟩
          · exact absurd h (anyIn_false (by simpa using hany) hf)
          · exact ⟨r, hr, hfr⟩
        · exact later hfx
      obtain ⟨s, hs, hflag, hfs⟩ := ih hrest _ hf hx'
      exact ⟨s, by simp [hs], hflag, hfs⟩

/-- the fetches of which `Client.Get` performs one when the flag is set, whatever other flags are
    set: receipts stand in for logs, blocks for headers -/
def fetchFor : String → List Fetch
  | "UseReceipts" => [.receipts]
  | "UseLogs" => [.receipts, .logs]
  | "UseTraces" => [.traces]
  | "UseBlocks" => [.blocks]
  | "UseHeaders" => [.blocks, .headers]
  | _ => []

theorem dispatch_fetchFor {n : String} {flags : List String} (hn : n ∈ flags) (hne : fetchFor n ≠ []) :
    ∃ c ∈ fetchFor n, c ∈ dispatch flags := by
  revert hne
  fun_cases fetchFor n with
  | case1 | case3 | case4 => simp [dispatch, dispatchB, hn]
  | case2 => by_cases hr : "UseReceipts" ∈ flags <;> simp [dispatch, dispatchB, hn, hr]
  | case5 => by_cases hb : "UseBlocks" ∈ flags <;> simp [dispatch, dispatchB, hn, hb]
  | case6 => exact fun hne => absurd rfl hne

theorem gen_wellOrdered : WellOrdered rsteps = true := by decide +kernel

/-- **gen_names** (C14): every list name used by a step exists -/
theorem gen_names : (Shovel.Gen.Glf.steps.all fun s =>
    ((s.trigger :: s.remove :: s.minus).all fun n => (Shovel.Gen.Glf.lists.any (·.1 == n)))) = true := by
  decide +kernel

/-- **gen_supplied** (C14): every step's flag stands for a fetch, and each fetch that may be
    performed for it fills every field of that step's list -/
theorem gen_supplied : (rsteps.all fun st => fetchFor st.flag != [] &&
    (fetchFor st.flag).all fun c => st.xs.all fun f => (supplies c).contains f) = true := by
  decide +kernel

/-- **known_complete** (C14): every field name the row builder understands is planned by some
    list or is a context / computed field -/
theorem known_complete : (knownFields.all fun f =>
    contextFields.contains f || rsteps.any fun st => st.xs.contains f) = true := by
  decide +kernel

/-- **gen_flags** (C14): no proof uses it: a flag added to `glf.New` breaks this line -/
theorem gen_flags : (rsteps.map (·.flag)) = ["UseReceipts", "UseLogs", "UseTraces", "UseBlocks", "UseHeaders"] := by
  decide +kernel

theorem planFrom_flags (steps : List RStep) (needs : List String) (x : String)
    (h : x ∈ planFrom steps needs) : x ∈ steps.map (·.flag) := by
  fun_induction planFrom steps needs with
  | case1 => cases h
  | case2 _ _ _ _ ih =>
    rcases List.mem_cons.mp h with rfl | h
    · simp
    · simp [ih h]
  | case3 _ _ _ _ ih => simp [ih h]

/-- **all_fetched** (C14): for EVERY set `S` of field names (all 2^28 subsets of the known fields
    and beyond), every known field in `S` is supplied by the fetches `Client.Get` performs for the
    plan `glf.New(S)`; no combination leaves a selected field at its zero value. -/
theorem all_fetched (S : List String) (f : String) (hf : f ∈ S) (hk : f ∈ knownFields) :
    suppliedBy (plan S) f = true := by
  have hkc := known_complete
  simp only [List.all_eq_true] at hkc
  have := hkc f hk
  simp only [Bool.or_eq_true, List.any_eq_true, List.contains_iff_mem] at this
  rcases this with hctx | ⟨st0, hst0, hfx0⟩
  · simp [suppliedBy, suppliedByB, hctx]
  · obtain ⟨st, hst, hflag, hfx⟩ := planFrom_covers rsteps gen_wellOrdered S f hf ⟨st0, hst0, hfx0⟩
    have hs := gen_supplied
    simp only [List.all_eq_true, Bool.and_eq_true, bne_iff_ne, ne_eq] at hs
    obtain ⟨hne, hall⟩ := hs st hst
    obtain ⟨c, hc, hd⟩ := dispatch_fetchFor hflag hne
    simp only [suppliedBy, suppliedByB, Bool.or_eq_true, List.any_eq_true]
    exact .inr ⟨c, hd, hall c hc f hfx⟩

example : plan ["tx_gas_price", "log_idx", "block_time"] = ["UseLogs", "UseBlocks"] := by decide +kernel
example : suppliedBy (plan ["tx_status", "trace_action_from"]) "trace_action_from" = true := by decide +kernel
example : "tx_effective_gas_price" ∈ knownFields := by decide +kernel

end Shovel.Plan
