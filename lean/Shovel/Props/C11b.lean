import Shovel.Gen.Fields

/-! The row builder's field table (`logWithCtx.get` in dig/dig.go), regenerated on every run. The models take a
    row's block-field values as a context `field name ↦ value`; the correspondence harness fills that context from
    the same members of the block / transaction / log / trace action the table below names. -/
namespace Shovel.Row

open Shovel.Gen.Fields

/-- **field_selectors_exact** (C11): every block-field name is read from the member that carries that field —
    `tx_to` from the transaction's recipient, `tx_signer` from its recovered sender, `tx_input` from its call
    data, `log_addr` from the log's address, the `trace_action_*` fields from the trace action, the gas and fee
    fields each from the member of the same name, block fields from the block — and there is no other case. -/
theorem field_selectors_exact :
    getCases =
      [("src_name", "wctx.SrcName(lwc.ctx)"), ("ig_name", "wctx.IGName(lwc.ctx)"), ("chain_id", "wctx.ChainID(lwc.ctx)"),
       ("block_hash", "lwc.b.Hash()"), ("block_num", "lwc.b.Num()"), ("block_time", "lwc.b.Time"),
       ("tx_hash", "lwc.t.Hash()"), ("tx_idx", "lwc.t.Idx"), ("tx_signer", "lwc.t.Signer()"), ("tx_to", "lwc.t.To.Bytes()"),
       ("tx_value", "&lwc.t.Value"), ("tx_input", "lwc.t.Data.Bytes()"), ("tx_type", "lwc.t.Type"),
       ("tx_status", "lwc.t.Receipt.Status"), ("log_idx", "lwc.l.Idx"), ("tx_gas_used", "lwc.t.GasUsed"),
       ("tx_gas_price", "&lwc.t.GasPrice"), ("tx_effective_gas_price", "&lwc.t.EffectiveGasPrice"),
       ("tx_contract_address", "lwc.t.ContractAddress.Bytes()"),
       ("tx_max_priority_fee_per_gas", "&lwc.t.MaxPriorityFeePerGas"), ("tx_max_fee_per_gas", "&lwc.t.MaxFeePerGas"),
       ("tx_nonce", "lwc.t.Nonce"), ("log_addr", "lwc.l.Address.Bytes()"),
       ("trace_action_call_type", "lwc.ta.CallType"), ("trace_action_idx", "lwc.ta.Idx"),
       ("trace_action_from", "lwc.ta.From.Bytes()"), ("trace_action_to", "lwc.ta.To.Bytes()"),
       ("trace_action_value", "&lwc.ta.Value")] :=
  rfl

/-- **stamp_from_context** (C04): the two stamp columns of a row are filled from the TASK's context (the source
    and integration the step runs for), never from the data being indexed. -/
theorem stamp_from_context :
    getCases.lookup "src_name" = some "wctx.SrcName(lwc.ctx)" ∧ getCases.lookup "ig_name" = some "wctx.IGName(lwc.ctx)" := by
  decide +kernel

end Shovel.Row
