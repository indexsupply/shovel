import Shovel.Model.Manager
/-
  C20 — the manager runs exactly the configured tasks, one runner each, across restarts; the file
  wins on a name clash; an unknown source is an error; after a restart every runner of the previous
  generation has stopped.
-/
namespace Shovel.Manager

section Merge
variable {α : Type} (key : α → String)

/-- the fold both `mergeIg` and `mergeSrc` are instances of -/
def mergeAcc (acc : List α) (l : List α) : List α :=
  l.foldl (fun acc x => acc.filter (fun y => key y != key x) ++ [x]) acc

theorem mergeAcc_nil (acc : List α) : mergeAcc key acc [] = acc := rfl

theorem mergeAcc_snoc (l : List α) (x : α) :
    mergeAcc key [] (l ++ [x]) = (mergeAcc key [] l).filter (fun y => key y != key x) ++ [x] := by
  simp [mergeAcc]

/-- The fold consumes `l` from the left, so the induction runs over the reversed input, where the entry
    consumed last is the head. -/
theorem mergeAcc_rev (r : List α) :
    ((mergeAcc key [] r.reverse).map key).Nodup ∧
    ∀ n, (mergeAcc key [] r.reverse).find? (key · == n) = r.find? (key · == n) := by
  induction r with
  | nil => exact ⟨List.nodup_nil, fun _ => rfl⟩
  | cons x r ih =>
    rw [List.reverse_cons, mergeAcc_snoc]
    refine ⟨?_, fun n => ?_⟩
    · rw [List.map_append, List.nodup_append]
      refine ⟨List.Nodup.sublist (List.Sublist.map key List.filter_sublist) ih.1, by simp, ?_⟩
      simp only [List.mem_map, List.mem_filter, List.map_cons, List.map_nil, List.mem_singleton]
      rintro _ ⟨y, ⟨_, hy⟩, rfl⟩ _ rfl
      simpa using hy
    · rw [List.find?_append, List.find?_filter, List.find?_cons (as := r)]
      by_cases h : key x = n
      · -- `x` shadows every earlier entry of its key
        subst h
        rw [List.find?_eq_none.mpr (by simp)]
        simp
      · -- another key: the filter keeps what the lookup looks for
        have hp : (fun a => decide ((key a != key x) = true ∧ (key a == n) = true)) = (key · == n) :=
          funext fun a => by by_cases ha : key a = n <;> simp [ha, Ne.symm h]
        rw [hp, ih.2 n, beq_false_of_ne h]
        simp [h]

theorem find?_key_of_nodup : ∀ {l : List α}, (l.map key).Nodup → ∀ {x}, x ∈ l →
    l.find? (key · == key x) = some x
  | a :: l, h, x, hx => by
    rw [List.map_cons, List.nodup_cons] at h
    rw [List.find?_cons]
    rcases List.mem_cons.mp hx with rfl | hx
    · simp
    · rw [beq_false_of_ne fun e : key a = key x => h.1 (e ▸ List.mem_map_of_mem hx)]
      exact find?_key_of_nodup h.2 hx

theorem mergeAcc_precedence (l : List α) :
    ((mergeAcc key [] l).map key).Nodup ∧
    (∀ n, (∃ x ∈ mergeAcc key [] l, key x = n) ↔ (∃ x ∈ l, key x = n)) ∧
    (∀ x ∈ mergeAcc key [] l, l.reverse.find? (fun z => key z == key x) = some x) := by
  obtain ⟨hnd, hlook⟩ := mergeAcc_rev key l.reverse
  rw [List.reverse_reverse] at hnd hlook
  refine ⟨hnd, fun n => ?_, fun x hx => by rw [← hlook, find?_key_of_nodup key hnd hx]⟩
  have e : ∀ xs : List α, (∃ x ∈ xs, key x = n) ↔ (xs.find? (key · == n)).isSome := fun xs => by simp
  rw [e, hlook, ← e]
  simp

end Merge

/-- the entry a name resolves to: the file's if the file has one, else the database's (the last
    one wins inside a list) -/
def resolveIg (db file : List IgCfg) (n : String) : Option IgCfg :=
  match file.reverse.find? (·.name == n) with
  | some x => some x
  | none => db.reverse.find? (·.name == n)

def resolveSrc (db file : List SrcCfg) (n : String) : Option SrcCfg :=
  match file.reverse.find? (·.name == n) with
  | some x => some x
  | none => db.reverse.find? (·.name == n)

theorem resolveIg_eq (db file : List IgCfg) (n : String) :
    resolveIg db file n = (db ++ file).reverse.find? (fun z => z.name == n) := by
  unfold resolveIg
  rw [List.reverse_append, List.find?_append]
  cases file.reverse.find? (fun z => z.name == n) <;> rfl

theorem resolveSrc_eq (db file : List SrcCfg) (n : String) :
    resolveSrc db file n = (db ++ file).reverse.find? (fun z => z.name == n) := by
  unfold resolveSrc
  rw [List.reverse_append, List.find?_append]
  cases file.reverse.find? (fun z => z.name == n) <;> rfl

/-- **merge_precedence** (C20): the merged configuration has exactly one entry per name, and it is
    the file's entry whenever the file defines that name. -/
theorem merge_precedence (db file : List IgCfg) :
    ((mergeIg db file).map (·.name)).Nodup ∧
    (∀ n, (∃ x ∈ mergeIg db file, x.name = n) ↔ (∃ x ∈ db ++ file, x.name = n)) ∧
    (∀ x ∈ mergeIg db file, resolveIg db file x.name = some x) := by
  simp only [resolveIg_eq]
  exact mergeAcc_precedence (·.name) (db ++ file)

theorem merge_precedence_src (db file : List SrcCfg) :
    ((mergeSrc db file).map (·.name)).Nodup ∧
    (∀ n, (∃ x ∈ mergeSrc db file, x.name = n) ↔ (∃ x ∈ db ++ file, x.name = n)) ∧
    (∀ x ∈ mergeSrc db file, resolveSrc db file x.name = some x) := by
  simp only [resolveSrc_eq]
  exact mergeAcc_precedence (·.name) (db ++ file)

theorem find_mergeSrc (db file : List SrcCfg) (n : String) :
    (mergeSrc db file).find? (fun z => z.name == n) = resolveSrc db file n := by
  have := (mergeAcc_rev (·.name) (db ++ file).reverse).2 n
  rwa [List.reverse_reverse, ← resolveSrc_eq] at this

def collect {α : Type} : List (Option α) → Option (List α)
  | [] => some []
  | none :: _ => none
  | some a :: l => (collect l).map (a :: ·)

theorem collect_some {α : Type} (l : List (Option α)) (ts : List α) : collect l = some ts → l = ts.map some := by
  fun_induction collect l generalizing ts with
  | case1 => rintro ⟨⟩; rfl
  | case2 => nofun
  | case3 a l ih =>
    intro h
    obtain ⟨ts', h', rfl⟩ := Option.map_eq_some_iff.1 h
    rw [ih ts' h']; rfl

theorem collect_eq_none {α : Type} : ∀ {l : List (Option α)}, collect l = none ↔ none ∈ l
  | [] => by simp [collect]
  | none :: _ => by simp [collect]
  | some a :: l => by simp [collect, collect_eq_none (l := l)]

theorem collect_append {α : Type} (l₁ l₂ : List (Option α)) :
    collect (l₁ ++ l₂) = match collect l₁ with
      | none => none
      | some a => (collect l₂).map (a ++ ·) := by
  fun_induction collect l₁ with
  | case1 => simp
  | case2 => simp [collect]
  | case3 a l₁ ih =>
    simp only [List.cons_append, collect, ih]
    cases collect l₁ <;> simp [Function.comp_def]

theorem foldl_collect {α β : Type} {f : Option (List β) → α → Option (List β)}
    {g : α → List (Option β)} (hnone : ∀ x, f none x = none)
    (hsome : ∀ ts x, f (some ts) x = (collect (g x)).map (ts ++ ·)) (l : List α) (ts : List β) :
    l.foldl f (some ts) = (collect (l.flatMap g)).map (ts ++ ·) := by
  induction l generalizing ts with
  | nil => simp [collect]
  | cons x l ih =>
    rw [List.foldl_cons, List.flatMap_cons, collect_append, hsome]
    cases collect (g x) with
    | none => exact List.foldlRecOn (motive := (· = none)) l f rfl fun _ hb x _ => hb ▸ hnone x
    | some a => simp [ih, Function.comp_def]

/-- what the tasks must be: one per enabled integration and source reference, with that source's
    settings and the reference's start/stop -/
def expected (fileIgs dbIgs : List IgCfg) (fileSrcs dbSrcs : List SrcCfg) : List (Option TaskInfo) :=
  (mergeIg dbIgs fileIgs).flatMap fun ig =>
    if !ig.enabled then []
    else ig.sources.map fun r =>
      (resolveSrc dbSrcs fileSrcs r.name).map fun sc =>
        ({ src := sc.name, ig := ig.name, start := r.start, stop := r.stop,
           batch := if sc.batch > 0 then sc.batch else 1, conc := if sc.conc > 0 then sc.conc else 1,
           poll := sc.poll, chainId := sc.chainId } : TaskInfo)

/-- both loops of `loadTasks` are all-or-nothing folds (`foldl_collect`); the functions they
    collect are read off `expected` by unification -/
theorem loadTasks_collect (fileIgs dbIgs : List IgCfg) (fileSrcs dbSrcs : List SrcCfg) :
    loadTasks fileIgs dbIgs fileSrcs dbSrcs = collect (expected fileIgs dbIgs fileSrcs dbSrcs) := by
  unfold loadTasks expected
  simp only [← find_mergeSrc]
  rw [foldl_collect (fun _ => rfl) (fun ts ig => ?_)]
  · cases collect _ <;> simp
  · cases ig.enabled with
    | false => simp [collect]
    | true =>
      simp only [Bool.not_true, Bool.false_eq_true, if_false]
      rw [List.map_eq_flatMap, foldl_collect (fun _ => rfl) (fun ts r => ?_)]
      cases (mergeSrc dbSrcs fileSrcs).find? (·.name == r.name) <;> simp [collect]

/-- **tasks_exact** (C20): loading succeeds iff every source referenced by
    an enabled integration is defined, and then the tasks are exactly the expected ones (in the
    order of the merged configuration); a reference to an unknown source is an error, never a
    silently missing task. -/
theorem tasks_exact (fileIgs dbIgs : List IgCfg) (fileSrcs dbSrcs : List SrcCfg) :
    match loadTasks fileIgs dbIgs fileSrcs dbSrcs with
    | some ts => (expected fileIgs dbIgs fileSrcs dbSrcs) = ts.map some
    | none => none ∈ expected fileIgs dbIgs fileSrcs dbSrcs := by
  cases h : loadTasks fileIgs dbIgs fileSrcs dbSrcs with
  | some ts => exact collect_some _ _ (by rw [← loadTasks_collect, h])
  | none => exact collect_eq_none.mp (by rw [← loadTasks_collect, h])

/-- **load_fails_iff** (C20): loading fails exactly when some enabled integration references an undefined source -/
theorem load_fails_iff (fileIgs dbIgs : List IgCfg) (fileSrcs dbSrcs : List SrcCfg) :
    loadTasks fileIgs dbIgs fileSrcs dbSrcs = none ↔
      ∃ ig ∈ mergeIg dbIgs fileIgs, ig.enabled = true ∧
        ∃ r ∈ ig.sources, resolveSrc dbSrcs fileSrcs r.name = none := by
  rw [loadTasks_collect, collect_eq_none, expected, List.mem_flatMap]
  refine exists_congr fun ig => and_congr_right fun _ => ?_
  cases ig.enabled <;> simp

-- for the `decide +kernel` examples and counterexamples over states
deriving instance DecidableEq for St

/-- the `closed` list after a `Restart` closed the installed channel (once): the `match` that
    `Manager.step` spells inline at `restartBegin`, named -/
def closeInst (s : St) : List Nat :=
  match s.installed with
  | some i => if s.closed.contains i then s.closed else i :: s.closed
  | none => s.closed

theorem mem_closeInst {s : St} {c : Nat} (h : c ∈ closeInst s) : c ∈ s.closed ∨ s.installed = some c := by
  unfold closeInst at h
  split at h
  · split at h
    · exact Or.inl h
    · rcases List.mem_cons.mp h with rfl | h
      · exact Or.inr ‹_›
      · exact Or.inl h
  · exact Or.inl h

/-- `step` as a relation: per transition its guard, as propositions, and the successor state -/
inductive Trans (s : St) : Step → St → Prop
  | restartBegin : s.restarting = none →
      Trans s .restartBegin { s with nextGen := s.nextGen + 1, restarting := some s.nextGen,
                                     waiting := s.waiting ++ [s.nextGen], closed := closeInst s }
  | runLock {g} : s.holder = none → g ∈ s.waiting →
      Trans s (.runLock g) { s with holder := some g, waiting := s.waiting.filter (· != g), loaded := none }
  | runLoadFail {g} : s.holder = some g → s.loaded = none → s.installed ≠ some g →
      Trans s .runLoadFail
        { s with holder := none, restarting := if s.restarting == some g then none else s.restarting }
  | runLoadOk {g tasks} : s.holder = some g → s.loaded = none → s.installed ≠ some g →
      Trans s (.runLoadOk tasks) { s with loaded := some tasks }
  | runInstall {g ts} : s.holder = some g → s.loaded = some ts → s.installed ≠ some g →
      Trans s .runInstall
        { s with installed := some g, acked := g :: s.acked,
                 restarting := if s.restarting == some g then none else s.restarting }
  | taskStart {r tasks} : s.holder = some r.1 → s.loaded = some tasks → s.installed = some r.1 →
      r.2 ∈ tasks → r ∉ s.spawned →
      Trans s (.taskStart r) { s with running := r :: s.running, spawned := r :: s.spawned }
  | taskStep {r} : r ∈ s.running → Trans s (.taskStep r) s
  | taskStop {r} : r ∈ s.running → r.1 ∈ s.closed →
      Trans s (.taskStop r) { s with running := s.running.filter (· != r) }
  | runEnd {g tasks} : s.holder = some g → s.loaded = some tasks → s.installed = some g →
      (∀ p ∈ tasks, (g, p) ∈ s.spawned) → (∀ r ∈ s.running, r.1 ≠ g) →
      Trans s .runEnd { s with holder := none, loaded := none }

theorem step_trans {s s' : St} {st : Step} : step s st = some s' → Trans s st s' := by
  -- the branches of `step` in the order of its definition; those that answer `none` are closed together
  fun_cases step s st with
  | case2 hr => rintro ⟨⟩; exact .restartBegin (by simpa using hr)
  | case4 g hg =>
    rintro ⟨⟩
    simp only [Bool.or_eq_true, Bool.not_eq_true', not_or, Bool.not_eq_false] at hg
    exact .runLock (by simpa using hg.1) (by simpa using hg.2)
  | case6 g hl hh hi => rintro ⟨⟩; exact .runLoadFail hh hl (by simpa using hi)
  | case9 tasks g hl hh hi => rintro ⟨⟩; exact .runLoadOk hh hl (by simpa using hi)
  | case12 g ts hl hh hi => rintro ⟨⟩; exact .runInstall hh hl (by simpa using hi)
  | case14 r g tasks hl hh hc =>
    rintro ⟨⟩
    simp only [Bool.and_eq_true, beq_iff_eq, List.contains_iff_mem, Bool.not_eq_true'] at hc
    obtain ⟨⟨⟨hi, rfl⟩, hm⟩, hn⟩ := hc
    exact .taskStart hh hl hi hm (by simpa using hn)
  | case17 r hr => rintro ⟨⟩; exact .taskStep (by simpa using hr)
  | case19 r hc =>
    rintro ⟨⟩
    simp only [Bool.and_eq_true, List.contains_iff_mem] at hc
    exact .taskStop hc.1 hc.2
  | case21 g tasks hl hh hc =>
    rintro ⟨⟩
    simp only [Bool.and_eq_true, beq_iff_eq, List.all_eq_true, List.contains_iff_mem,
      Bool.not_eq_true', List.any_eq_false] at hc
    exact .runEnd hh hl hc.1.1 hc.1.2 hc.2
  | case1 | case3 | case5 | case7 | case8 | case10 | case11 | case13 | case15 | case16 | case18
  | case20 | case22 | case23 => nofun

/-- protocol invariant: `one_generation` and `no_double` are the properties of interest, the rest
    makes it inductive -/
structure Inv (s : St) : Prop where
  /-- every running runner belongs to the generation holding the `running` lock, and that
      generation's channel is the installed one -/
  one_generation : ∀ r ∈ s.running, s.holder = some r.1 ∧ s.installed = some r.1
  /-- no (source, integration) pair has two runners -/
  no_double : (s.running.map (·.2)).Nodup
  running_sub : ∀ r ∈ s.running, r ∈ s.spawned
  spawned_nodup : s.spawned.Nodup
  /-- the holder generation only ever spawned runners for loaded tasks -/
  spawned_loaded : ∀ r ∈ s.spawned, s.holder = some r.1 → ∃ ts, s.loaded = some ts ∧ r.2 ∈ ts
  gen_lt : ∀ r ∈ s.spawned, r.1 < s.nextGen
  holder_lt : ∀ g, s.holder = some g → g < s.nextGen
  waiting_lt : ∀ g ∈ s.waiting, g < s.nextGen ∧ s.holder ≠ some g
  /-- a generation whose Run has not got the lock yet has spawned nothing -/
  waiting_fresh : ∀ g ∈ s.waiting, ∀ r ∈ s.spawned, r.1 ≠ g
  acked_lt : ∀ g ∈ s.acked, g < s.nextGen
  installed_acked : ∀ i, s.installed = some i → i ∈ s.acked
  closed_acked : ∀ c ∈ s.closed, c ∈ s.acked
  /-- a Run waiting for the lock is `main`'s (generation 0) or the one started by the Restart that
      holds `restartMut` -/
  waiting_restarting : ∀ w ∈ s.waiting, w = 0 ∨ s.restarting = some w
  /-- the Run started by the Restart in progress is the newest generation: neither the holder nor an
      acknowledged generation is above it -/
  restarting_ge : ∀ w, s.restarting = some w →
    (∀ h, s.holder = some h → h ≤ w) ∧ (∀ g ∈ s.acked, g ≤ w)
  /-- generations take the lock in increasing order, except `main`'s Run (generation 0), which may
      be overtaken by a Restart -/
  acked_le : ∀ g ∈ s.acked, ∀ h, s.holder = some h → g ≤ h ∨ h = 0

theorem inv_init : Inv init := by constructor <;> simp [init]

/-- what every case of `step_inv` leans on: without a holder, or with one whose channel is not the
    installed one, there are no runners -/
theorem Inv.idle {s : St} (hi : Inv s) (h : s.holder = none ∨ s.holder ≠ s.installed) : s.running = [] :=
  List.eq_nil_iff_forall_not_mem.mpr fun r hr =>
    have ⟨h1, h2⟩ := hi.one_generation r hr
    h.elim (fun hn => nomatch hn.symm.trans h1) (· (h1.trans h2.symm))

theorem restarting_if {s : St} {g w : Nat} :
    (if s.restarting == some g then none else s.restarting) = some w ↔ s.restarting = some w ∧ w ≠ g := by
  rw [Option.ite_none_left_eq_some, and_comm]
  refine and_congr_right fun h => ?_
  rw [h, beq_iff_eq, Option.some.injEq]

/-- The two ordering clauses of `Inv`, for an arbitrary set `E` of generations exempt from the
    order. `Inv` has `E = {0}`: `main`'s Run is started without holding `restartMut`, so it may
    take the lock late. With `E = ∅` (no Run of `main` is waiting any more) the order is strict. -/
structure Ord (E : Nat → Prop) (s : St) : Prop where
  waiting_restarting : ∀ w ∈ s.waiting, E w ∨ s.restarting = some w
  acked_le : ∀ g ∈ s.acked, ∀ h, s.holder = some h → g ≤ h ∨ E h

theorem Inv.ord {s : St} (hi : Inv s) : Ord (· = 0) s := ⟨hi.waiting_restarting, hi.acked_le⟩

theorem step_ord {E : Nat → Prop} {s s' : St} {st : Step} (hi : Inv s) (ho : Ord E s)
    (h : step s st = some s') : Ord E s' := by
  cases step_trans h with
  | restartBegin hr =>
    refine ⟨List.forall_mem_append.mpr ⟨fun w hw => ?_, ?_⟩, ho.acked_le⟩
    · exact (ho.waiting_restarting w hw).imp_right fun hw' => by rw [hr] at hw'; cases hw'
    · exact List.forall_mem_singleton.mpr (Or.inr rfl)
  | @runLock g _ hg =>
    refine ⟨fun w hw => ho.waiting_restarting w (List.mem_filter.mp hw).1, fun a ha h' hh' => ?_⟩
    obtain rfl : g = h' := Option.some.inj hh'
    exact (ho.waiting_restarting g hg).symm.imp_left fun h1 => (hi.restarting_ge _ h1).2 a ha
  | @runLoadFail g hh =>
    refine ⟨fun w hw => ?_, fun _ _ _ => nofun⟩
    exact (ho.waiting_restarting w hw).imp_right fun h1 =>
      restarting_if.2 ⟨h1, fun e => (hi.waiting_lt w hw).2 (e ▸ hh)⟩
  | runLoadOk =>
    exact ⟨ho.waiting_restarting, ho.acked_le⟩
  | @runInstall g _ hh =>
    refine ⟨fun w hw => ?_, List.forall_mem_cons.mpr ⟨fun h' hh' => ?_, ho.acked_le⟩⟩
    · exact (ho.waiting_restarting w hw).imp_right fun h1 =>
        restarting_if.2 ⟨h1, fun e => (hi.waiting_lt w hw).2 (e ▸ hh)⟩
    · exact Or.inl (Nat.le_of_eq (Option.some.inj (hh.symm.trans hh')))
  | taskStart =>
    exact ⟨ho.waiting_restarting, ho.acked_le⟩
  | taskStep =>
    exact ho
  | taskStop =>
    exact ⟨ho.waiting_restarting, ho.acked_le⟩
  | runEnd =>
    exact ⟨ho.waiting_restarting, fun _ _ _ => nofun⟩

theorem step_inv {s s' : St} {st : Step} (hi : Inv s) (h : step s st = some s') : Inv s' := by
  have ho := step_ord hi hi.ord h
  cases step_trans h with
  | restartBegin hr =>
    exact { hi with
      gen_lt := fun r hr => Nat.lt_succ_of_lt (hi.gen_lt r hr)
      holder_lt := fun g hg => Nat.lt_succ_of_lt (hi.holder_lt g hg)
      waiting_lt := List.forall_mem_append.mpr
        ⟨fun g hg => ⟨Nat.lt_succ_of_lt (hi.waiting_lt g hg).1, (hi.waiting_lt g hg).2⟩,
         List.forall_mem_singleton.mpr
           ⟨Nat.lt_succ_self _, fun hh => Nat.lt_irrefl _ (hi.holder_lt _ hh)⟩⟩
      waiting_fresh := List.forall_mem_append.mpr
        ⟨hi.waiting_fresh, List.forall_mem_singleton.mpr fun r hr => Nat.ne_of_lt (hi.gen_lt r hr)⟩
      acked_lt := fun g hg => Nat.lt_succ_of_lt (hi.acked_lt g hg)
      closed_acked := fun c hc => (mem_closeInst hc).elim (hi.closed_acked c) (hi.installed_acked c)
      waiting_restarting := ho.waiting_restarting
      restarting_ge := by
        intro w hw
        obtain rfl : s.nextGen = w := Option.some.inj hw
        exact ⟨fun h hh => Nat.le_of_lt (hi.holder_lt h hh), fun g hg => Nat.le_of_lt (hi.acked_lt g hg)⟩ }
  | @runLock g hn hg =>
    have nor : s.running = [] := hi.idle (.inl hn)
    exact { hi with
      one_generation := by simp [nor]
      spawned_loaded := by
        intro r hr hh
        obtain rfl : g = r.1 := Option.some.inj hh
        exact absurd rfl (hi.waiting_fresh _ hg r hr)
      holder_lt := by
        intro g' hg'
        obtain rfl : g = g' := Option.some.inj hg'
        exact (hi.waiting_lt _ hg).1
      waiting_lt := by
        intro w hw
        obtain ⟨hw, hne⟩ := List.mem_filter.mp hw
        refine ⟨(hi.waiting_lt w hw).1, fun hh => ?_⟩
        obtain rfl : g = w := Option.some.inj hh
        simp at hne
      waiting_fresh := fun w hw => hi.waiting_fresh w (List.mem_filter.mp hw).1
      waiting_restarting := ho.waiting_restarting
      restarting_ge := by
        intro w hw
        refine ⟨fun h hh => ?_, (hi.restarting_ge w hw).2⟩
        obtain rfl : g = h := Option.some.inj hh
        -- the new holder is `main`'s Run or the Run of the restart in progress
        rcases hi.waiting_restarting _ hg with rfl | h1
        · exact Nat.zero_le w
        · rw [hw] at h1; cases h1; exact Nat.le_refl _
      acked_le := ho.acked_le }
  | @runLoadFail g hh hl hni =>
    have nor : s.running = [] := hi.idle (.inr (hh ▸ hni.symm))
    exact { hi with
      one_generation := by simp [nor]
      spawned_loaded := fun _ _ => nofun
      holder_lt := nofun
      waiting_lt := fun w hw => ⟨(hi.waiting_lt w hw).1, nofun⟩
      waiting_restarting := ho.waiting_restarting
      restarting_ge := fun w hw =>
        ⟨nofun, (hi.restarting_ge w (restarting_if.1 hw).1).2⟩
      acked_le := ho.acked_le }
  | @runLoadOk g tasks hh hl hni =>
    exact { hi with
      spawned_loaded := by
        intro r hr hh'
        obtain ⟨ts, hts, _⟩ := hi.spawned_loaded r hr hh'
        rw [hl] at hts; cases hts }
  | @runInstall g ts hh hl hni =>
    have nor : s.running = [] := hi.idle (.inr (hh ▸ hni.symm))
    exact { hi with
      one_generation := by simp [nor]
      acked_lt := List.forall_mem_cons.mpr ⟨hi.holder_lt _ hh, hi.acked_lt⟩
      installed_acked := by
        intro i hi'
        obtain rfl : g = i := Option.some.inj hi'
        exact List.mem_cons_self
      closed_acked := fun c hc => List.mem_cons_of_mem _ (hi.closed_acked c hc)
      waiting_restarting := ho.waiting_restarting
      restarting_ge := by
        intro w hw
        obtain ⟨h1, h2⟩ := hi.restarting_ge w (restarting_if.1 hw).1
        exact ⟨h1, List.forall_mem_cons.mpr ⟨h1 _ hh, h2⟩⟩
      acked_le := ho.acked_le }
  | @taskStart r tasks hh hl hin hmem hns =>
    exact { hi with
      one_generation := List.forall_mem_cons.mpr ⟨⟨hh, hin⟩, hi.one_generation⟩
      no_double := by
        rw [List.map_cons, List.nodup_cons]
        refine ⟨fun hm => ?_, hi.no_double⟩
        obtain ⟨r', hr', he⟩ := List.mem_map.mp hm
        have h1 := (hi.one_generation r' hr').1
        rw [hh] at h1
        have : r' = r := Prod.ext (Option.some.inj h1).symm he
        exact hns (this ▸ hi.running_sub r' hr')
      running_sub := List.forall_mem_cons.mpr
        ⟨List.mem_cons_self, fun r' hr' => List.mem_cons_of_mem _ (hi.running_sub r' hr')⟩
      spawned_nodup := List.nodup_cons.mpr ⟨hns, hi.spawned_nodup⟩
      spawned_loaded := List.forall_mem_cons.mpr ⟨fun _ => ⟨tasks, hl, hmem⟩, hi.spawned_loaded⟩
      gen_lt := List.forall_mem_cons.mpr ⟨hi.holder_lt _ hh, hi.gen_lt⟩
      waiting_fresh := fun w hw => List.forall_mem_cons.mpr
        ⟨fun e => (hi.waiting_lt w hw).2 (e ▸ hh), hi.waiting_fresh w hw⟩ }
  | taskStep => exact hi
  | @taskStop r hr hc =>
    exact { hi with
      one_generation := fun r' hr' => hi.one_generation r' (List.mem_filter.mp hr').1
      no_double := List.Nodup.sublist (List.Sublist.map _ List.filter_sublist) hi.no_double
      running_sub := fun r' hr' => hi.running_sub r' (List.mem_filter.mp hr').1 }
  | @runEnd g tasks hh hl hin hall hnone =>
    exact { hi with
      one_generation := by
        intro r hr
        have h1 := (hi.one_generation r hr).1
        rw [hh] at h1
        exact absurd (Option.some.inj h1).symm (hnone r hr)
      spawned_loaded := fun _ _ => nofun
      holder_lt := nofun
      waiting_lt := fun w hw => ⟨(hi.waiting_lt w hw).1, nofun⟩
      restarting_ge := fun w hw => ⟨nofun, (hi.restarting_ge w hw).2⟩
      acked_le := ho.acked_le }

theorem run_nil (s : St) : run s [] = s := rfl

theorem run_cons (s : St) (st : Step) (steps : List Step) :
    run s (st :: steps) = run ((step s st).getD s) steps := rfl

theorem run_append (s : St) (l₁ l₂ : List Step) : run s (l₁ ++ l₂) = run (run s l₁) l₂ :=
  List.foldl_append

theorem run_induction {P : St → Prop} (hstep : ∀ {s s' st}, P s → step s st = some s' → P s')
    {s : St} (h : P s) (steps : List Step) : P (run s steps) :=
  List.foldlRecOn steps _ h fun s hs st _ => by
    show P ((step s st).getD s)
    cases hst : step s st with
    | none => exact hs
    | some s' => exact hstep hs hst

theorem run_inv {s : St} (hi : Inv s) (steps : List Step) : Inv (run s steps) :=
  run_induction step_inv hi steps

/-- **one_generation** (C20): in every state reachable by any schedule of restarts, run phases and
    task steps all runners belong to one generation (the holder of the `running` lock) and no (source,
    integration) pair is driven by two runners: the fields `one_generation` and `no_double` of the
    conclusion, which is the whole `Inv`. The hypothesis on the loaded task lists is not needed. -/
theorem one_generation (steps : List Step)
    (_hnodup : ∀ st ∈ steps, ∀ ts, st = .runLoadOk ts → ts.Nodup) :
    Inv (run init steps) :=
  run_inv inv_init steps

/-- **no_runner_at_lock** (C20): whenever a Run takes the `running` lock, and whenever a Run reports success (the moment the
    Restart that started it returns), no runner of any generation is running. -/
theorem no_runner_at_lock {s s' : St} {g : Nat} (hi : Inv s) (h : step s (.runLock g) = some s') :
    s'.running = [] := by
  cases step_trans h with
  | runLock hn => exact hi.idle (.inl hn)

theorem no_runner_at_ack {s s' : St} (hi : Inv s) (h : step s .runInstall = some s') :
    s'.running = [] ∧ ∃ g, s'.holder = some g ∧ s'.installed = some g ∧ s'.acked = g :: s.acked := by
  cases step_trans h with
  | @runInstall g _ hh _ hni =>
    exact ⟨hi.idle (.inr (hh ▸ hni.symm)), g, hh, rfl, rfl⟩

/-- `restart_complete` in any state satisfying the invariants, for any exempt set -/
theorem Ord.running_ge {E : Nat → Prop} {s : St} (hi : Inv s) (ho : Ord E s) {g : Nat}
    (hack : g ∈ s.acked) : ∀ r ∈ s.running, s.holder = some r.1 ∧ (g ≤ r.1 ∨ E r.1) :=
  fun r hr => ⟨(hi.one_generation r hr).1, ho.acked_le g hack _ (hi.one_generation r hr).1⟩

/-- **restart_complete** (C20): once generation `g` reported success, every running
    runner belongs to the lock holder, whose generation is `≥ g` — or is generation 0, the Run
    started by `main`, if a Restart overtook it (see `restart_overtakes_main`). -/
theorem restart_complete (steps : List Step)
    (_hnodup : ∀ st ∈ steps, ∀ ts, st = .runLoadOk ts → ts.Nodup)
    (s : St) (hs : s = run init steps) (g : Nat) (hack : g ∈ s.acked) :
    ∀ r ∈ s.running, s.holder = some r.1 ∧ (g ≤ r.1 ∨ r.1 = 0) := by
  subst hs
  have hi := run_inv inv_init steps
  exact hi.ord.running_ge hi hack

theorem restart_complete_weak (steps : List Step)
    (hnodup : ∀ st ∈ steps, ∀ ts, st = .runLoadOk ts → ts.Nodup)
    (s : St) (hs : s = run init steps) (g : Nat) (hack : g ∈ s.acked) :
    ∀ r ∈ s.running, g ≤ r.1 ∨ s.holder = some r.1 :=
  fun r hr => Or.inr (restart_complete steps hnodup s hs g hack r hr).1

/-- before the first Restart nothing but `main`'s Run taking the lock can happen -/
theorem run_init_pre (pre : List Step)
    (hpre : ∀ st ∈ pre, st ≠ .restartBegin ∧ st ≠ .runLock 0) : run init pre = init :=
  List.foldlRecOn (motive := (· = init)) pre _ rfl fun s hs st hst => by
    subst hs
    have hne := hpre st hst
    have : step init st = none := by
      cases st with
      | restartBegin => exact absurd rfl hne.1
      | runLock g =>
        have : g ≠ 0 := fun e => hne.2 (e ▸ rfl)
        simp [step, init, this]
      | _ => rfl
    show (step init st).getD init = init
    rw [this]; rfl

/-- **restart_complete_main_first** (C20): if `main`'s Run took the `running` lock before the
    first Restart began (no `restartBegin` precedes the first `runLock 0` of the schedule), then
    once generation `g` reported success every still-running runner has generation `≥ g` (and is of
    the lock holder's generation): all runners of all earlier generations have returned. -/
theorem restart_complete_main_first (pre rest : List Step)
    (hpre : ∀ st ∈ pre, st ≠ .restartBegin ∧ st ≠ .runLock 0)
    (s : St) (hs : s = run init (pre ++ .runLock 0 :: rest)) (g : Nat) (hack : g ∈ s.acked) :
    ∀ r ∈ s.running, g ≤ r.1 ∧ s.holder = some r.1 := by
  subst hs
  -- once `main`'s Run holds the lock no Run of `main` is waiting: nothing is exempt from the order
  have h0 : step init (.runLock 0) = some { init with holder := some 0, waiting := [] } := rfl
  rw [run_append, run_init_pre pre hpre, run_cons, h0] at hack ⊢
  obtain ⟨hi, ho⟩ := run_induction (P := fun s => Inv s ∧ Ord (fun _ => False) s)
    (fun ⟨hi, ho⟩ h => ⟨step_inv hi h, step_ord hi ho h⟩)
    ⟨step_inv inv_init h0, by simp, by simp [init]⟩ rest
  exact fun r hr => ⟨(ho.running_ge hi hack r hr).2.resolve_right id, (ho.running_ge hi hack r hr).1⟩

/- The hypothesis of `restart_complete_main_first` cannot be dropped: the protocol alone admits the
schedule below. (In the source the dashboard is served only after the first Run has reported:
`serve_after_first_run`, Props/C20b.) -/

/-- the schedule: `main` has started Run 0 but it has not reached `running.Lock()` yet; a restart
    request is served all the same, a Restart starts Run 1, which wins the lock, loads, reports success and
    spawns; a second Restart closes generation 1's channel and starts Run 2; generation 1 winds
    down; now Run 0 (not Run 2) wins the lock. -/
def overtake : List Step :=
  [.restartBegin, .runLock 1, .runLoadOk [("s", "a")], .runInstall, .taskStart (1, ("s", "a")),
   .restartBegin, .taskStop (1, ("s", "a")), .runEnd,
   .runLock 0, .runLoadOk [("s", "a")], .runInstall, .taskStart (0, ("s", "a"))]

/-- `∀ r ∈ s.running, g ≤ r.1` is false without the `main`-first hypothesis: generation 1 reported
    success, yet a generation-0 runner is running afterwards. -/
theorem restart_overtakes_main :
    1 ∈ (run init overtake).acked ∧ (0, ("s", "a")) ∈ (run init overtake).running := by
  decide +kernel

/-- … and in that state the manager is stuck: the second Restart holds `restartMut` and waits for
    Run 2, Run 2 waits for the `running` lock, which Run 0 releases only when its runners stop,
    i.e. when channel 0 is closed — which only a Restart could do. Apart from the runner's own
    steps no step is enabled, for ever. -/
theorem restart_overtakes_main_stuck (st : Step) (s' : St)
    (h : step (run init overtake) st = some s') : s' = run init overtake ∧ st = .taskStep (0, ("s", "a")) := by
  have e : run init overtake =
      { nextGen := 3, holder := some 0, loaded := some [("s", "a")], installed := some 0, closed := [1],
        running := [(0, ("s", "a"))], spawned := [(0, ("s", "a")), (1, ("s", "a"))], waiting := [2],
        restarting := some 2, acked := [0, 1] } := by decide +kernel
  rw [e] at h ⊢
  cases step_trans h with
  | restartBegin hr => cases hr
  | runLock hn => cases hn
  | runLoadFail _ hl => cases hl
  | runLoadOk _ hl => cases hl
  | runInstall hh _ hni => cases hh; exact absurd rfl hni
  | @taskStart r ts hh hl _ hmem hns =>
    obtain ⟨g, p⟩ := r
    cases hh
    cases hl
    cases List.mem_singleton.mp hmem
    exact absurd List.mem_cons_self hns
  | @taskStep r hr =>
    cases List.mem_singleton.mp hr
    exact ⟨rfl, rfl⟩
  | @taskStop r hr hc =>
    cases List.mem_singleton.mp hr
    cases List.mem_singleton.mp hc
  | runEnd hh _ _ _ hnone => cases hh; exact absurd rfl (hnone _ List.mem_cons_self)

section Examples

/-- a database integration and a file integration with the same name: the file's wins -/
example :
    mergeIg [{ name := "a", enabled := false, sources := [{ name := "db" }] },
             { name := "b", enabled := true, sources := [{ name := "db" }] }]
            [{ name := "a", enabled := true, sources := [{ name := "file" }] }]
      = [{ name := "b", enabled := true, sources := [{ name := "db" }] },
         { name := "a", enabled := true, sources := [{ name := "file" }] }] ∧
    resolveIg [{ name := "a", enabled := false, sources := [{ name := "db" }] }]
              [{ name := "a", enabled := true, sources := [{ name := "file" }] }] "a"
      = some { name := "a", enabled := true, sources := [{ name := "file" }] } := by
  decide +kernel

example :
    mergeSrc [{ name := "s", chainId := 1, batch := 7 }] [{ name := "s", chainId := 2 }]
      = [{ name := "s", chainId := 2 }] := by
  decide +kernel

def exIgsFile : List IgCfg :=
  [{ name := "two", enabled := true, sources := [{ name := "main", start := 5 }, { name := "base", stop := 9 }] },
   { name := "off", enabled := false, sources := [{ name := "main" }] }]
def exIgsDb : List IgCfg :=
  [{ name := "one", enabled := true, sources := [{ name := "base", start := 3 }] },
   { name := "off", enabled := true, sources := [{ name := "main" }] }]
def exSrcsFile : List SrcCfg := [{ name := "main", chainId := 1, batch := 100, conc := 4 }]
def exSrcsDb : List SrcCfg := [{ name := "main", chainId := 99 }, { name := "base", chainId := 8453, poll := 500 }]

/-- a disabled integration (the file's `off` overrides the database's enabled `off`), one
    integration on two sources, one on one: exactly the three expected tasks, with the file's
    settings for `main` and the defaults (batch 1, concurrency 1) for `base` -/
example :
    loadTasks exIgsFile exIgsDb exSrcsFile exSrcsDb = some
      [{ src := "base", ig := "one", start := 3, stop := 0, batch := 1, conc := 1, poll := 500, chainId := 8453 },
       { src := "main", ig := "two", start := 5, stop := 0, batch := 100, conc := 4, poll := 1000, chainId := 1 },
       { src := "base", ig := "two", start := 0, stop := 9, batch := 1, conc := 1, poll := 500, chainId := 8453 }] ∧
    (expected exIgsFile exIgsDb exSrcsFile exSrcsDb).length = 3 := by
  decide +kernel

/-- an enabled integration referring to an unknown source: loading fails -/
example :
    loadTasks [{ name := "x", enabled := true, sources := [{ name := "main" }, { name := "nope" }] }] []
      exSrcsFile exSrcsDb = none := by
  decide +kernel

/-- a disabled integration referring to an unknown source: still loads (it has no task) -/
example :
    loadTasks [{ name := "x", enabled := false, sources := [{ name := "nope" }] },
               { name := "y", enabled := true, sources := [{ name := "main" }] }] []
      exSrcsFile exSrcsDb = some
      [{ src := "main", ig := "y", start := 0, stop := 0, batch := 100, conc := 4, poll := 1000, chainId := 1 }] := by
  decide +kernel

/-- generation 0 runs its task; a Restart closes its channel and starts Run 1 -/
def handover₁ : List Step :=
  [.runLock 0, .runLoadOk [("s", "a")], .runInstall, .taskStart (0, ("s", "a")), .restartBegin, .runLock 1]

/-- … but Run 1 cannot take the lock — hence cannot spawn — and Run 0 cannot end before generation
    0's runner has stopped -/
example :
    (run init handover₁).holder = some 0 ∧ (run init handover₁).waiting = [1] ∧
    (run init handover₁).running = [(0, ("s", "a"))] ∧ (run init handover₁).closed = [0] ∧
    (run init handover₁).restarting = some 1 ∧
    step (run init handover₁) (.runLock 1) = none ∧
    step (run init handover₁) (.taskStart (1, ("s", "a"))) = none ∧
    step (run init handover₁) .runEnd = none ∧
    step (run init handover₁) .restartBegin = none ∧
    (step (run init handover₁) (.taskStop (0, ("s", "a")))).isSome = true := by
  decide +kernel

/-- the full hand-over: the old runner stops, Run 0 ends, Run 1 locks, loads, reports, spawns -/
def handover₂ : List Step :=
  handover₁ ++ [.taskStop (0, ("s", "a")), .runEnd, .runLock 1, .runLoadOk [("s", "a"), ("s", "b")],
    .runInstall, .taskStart (1, ("s", "b")), .taskStart (1, ("s", "a")), .taskStart (1, ("s", "a")),
    .taskStart (0, ("s", "a"))]

example :
    run init handover₂ =
      { nextGen := 2, holder := some 1, loaded := some [("s", "a"), ("s", "b")], installed := some 1,
        closed := [0], running := [(1, ("s", "a")), (1, ("s", "b"))],
        spawned := [(1, ("s", "a")), (1, ("s", "b")), (0, ("s", "a"))], waiting := [],
        restarting := none, acked := [1, 0] } := by
  decide +kernel

/-- a failed reload: Run 1 reports the error, nothing is running afterwards (generation 0 was
    stopped by the Restart), and the next Restart does not close channel 0 twice -/
example :
    run init [.runLock 0, .runLoadOk [("s", "a")], .runInstall, .taskStart (0, ("s", "a")), .restartBegin,
              .taskStop (0, ("s", "a")), .runEnd, .runLock 1, .runLoadFail, .restartBegin] =
      { nextGen := 3, holder := none, loaded := none, installed := some 0, closed := [0], running := [],
        spawned := [(0, ("s", "a"))], waiting := [2], restarting := some 2, acked := [0] } := by
  decide +kernel

end Examples

end Shovel.Manager
