import Shovel.Props.World
/-
  C01 / C06, liveness side: PROGRESS and COMPLETION of the world model `converge`.

  The safety theorems of `Shovel/Props/World.lean` allow a step to answer `err`/`nothingNew`
  forever.  Here: when the source is healthy during a step (its script answers every call the
  step makes, honestly), the fault-free step SUCCEEDS and ADVANCES (`progress`); iterating such
  steps REACHES the head of the chain with the table being exactly the projection of blocks
  start..head (`reaches_head`); with a configured stop the iteration reaches the stop and then
  reports `done` forever without writing (`stopped_at_stop`).
-/
namespace Shovel.World

/-- what a step of a task at position `pos` needs of the script, on chain `c`.  `hash`: the step
    calls `Hash` only when no position is recorded, and then `pos = start - 1`.  `gets`: one copy of
    each answer suffices — a step looks up each key at most once (`go_full`).  `find?` returns the
    FIRST entry under a key, so these are statements about the entries the step will consume. -/
structure ScriptFull (c : Chain) (pos : Nat) (sc : Script) : Prop where
  latest_ne : sc.latest ≠ []
  latest : ∀ a ∈ sc.latest, ∃ n, pos < n ∧ n ≤ c.head ∧ a = some (n, c.hashAt n)
  hash : sc.hash.find? (fun g => g.1 == pos) = some (pos, some (c.hashAt pos))
  gets : ∀ m n, pos < m → 1 ≤ n → m + n - 1 ≤ c.head →
    sc.gets.find? (fun g => g.1 == (m, n)) = some ((m, n), some (c.slice m n))

theorem ScriptFull.lt_head {c : Chain} {pos : Nat} {sc : Script} (h : ScriptFull c pos sc) : pos < c.head := by
  cases hl : sc.latest with
  | nil => exact absurd hl h.latest_ne
  | cons a r =>
    obtain ⟨n, h1, h2, _⟩ := h.latest a (by rw [hl]; exact List.mem_cons_self ..)
    omega

/-- the position-independent form (the literal reading of "the source is healthy"): EVERY answer
    to `Latest` is the true head, every `Hash(n)`, `n ≤ head`, and every range within the chain is
    answered with the chain's data.  It implies `ScriptFull c pos` for every position below the head. -/
structure ScriptComplete (c : Chain) (sc : Script) : Prop where
  latest_ne : sc.latest ≠ []
  latest : ∀ a ∈ sc.latest, a = some (c.head, c.hashAt c.head)
  hash : ∀ n, n ≤ c.head → sc.hash.find? (fun g => g.1 == n) = some (n, some (c.hashAt n))
  gets : ∀ m n, 1 ≤ n → m + n - 1 ≤ c.head →
    sc.gets.find? (fun g => g.1 == (m, n)) = some ((m, n), some (c.slice m n))

theorem ScriptComplete.full {c : Chain} {sc : Script} (h : ScriptComplete c sc) (pos : Nat) (hp : pos < c.head) :
    ScriptFull c pos sc :=
  ⟨h.latest_ne, fun a ha => ⟨c.head, hp, Nat.le_refl _, h.latest a ha⟩, h.hash pos (Nat.le_of_lt hp),
    fun m n _ h2 h3 => h.gets m n h2 h3⟩

def Script.fullKeys (c : Chain) (pos : Nat) : List (Nat × Nat) :=
  (List.range (c.head - pos)).flatMap fun i =>
    (List.range (c.head - pos - i)).map fun j => (pos + 1 + i, j + 1)

/-- a finite script of a healthy source for a step at position `pos` — the true head, the hash of
    block `pos`, and one honest answer for every range of blocks above `pos` up to the head; the
    task argument is not used. -/
def Script.full (c : Chain) (_t : Task) (pos : Nat) : Script :=
  { latest := [some (c.head, c.hashAt c.head)]
    hash := [(pos, some (c.hashAt pos))]
    gets := (Script.fullKeys c pos).map fun p => (p, some (c.slice p.1 p.2)) }

theorem Script.mem_fullKeys {c : Chain} {pos m n : Nat} :
    (m, n) ∈ Script.fullKeys c pos ↔ pos < m ∧ 1 ≤ n ∧ m + n - 1 ≤ c.head := by
  unfold Script.fullKeys
  simp only [List.mem_flatMap, List.mem_range, List.mem_map, Prod.mk.injEq]
  constructor
  · rintro ⟨i, hi, j, hj, rfl, rfl⟩
    omega
  · rintro ⟨h1, h2, h3⟩
    obtain ⟨i, rfl⟩ : ∃ i, m = pos + 1 + i := ⟨m - pos - 1, by omega⟩
    obtain ⟨j, rfl⟩ : ∃ j, n = j + 1 := ⟨n - 1, by omega⟩
    replace h3 : pos + i + j < c.head := by omega
    exact ⟨i, by omega, j, by omega, rfl, rfl⟩

theorem Script.full_scriptOK (c : Chain) (t : Task) (pos : Nat) (hp : pos ≤ c.head) :
    ScriptOK c (Script.full c t pos) := by
  refine ⟨?_, ?_, ?_⟩
  · intro a ha
    simp only [Script.full, List.mem_singleton] at ha
    exact .inr ⟨c.head, Nat.le_refl _, ha⟩
  · intro p hp'
    simp only [Script.full, List.mem_singleton] at hp'
    subst hp'
    exact .inr ⟨hp, rfl⟩
  · intro g hg
    simp only [Script.full, List.mem_map] at hg
    obtain ⟨⟨m, n⟩, hmem, rfl⟩ := hg
    obtain ⟨_, h2, h3⟩ := Script.mem_fullKeys.mp hmem
    exact .inr ⟨h2, h3, rfl⟩

theorem Script.full_ok (c : Chain) (t : Task) (pos : Nat) (hp : pos < c.head) :
    ScriptFull c pos (Script.full c t pos) ∧ ScriptOK c (Script.full c t pos) := by
  refine ⟨⟨?_, ?_, ?_, ?_⟩, Script.full_scriptOK c t pos (Nat.le_of_lt hp)⟩
  · simp [Script.full]
  · intro a ha
    simp only [Script.full, List.mem_singleton] at ha
    exact ⟨c.head, hp, Nat.le_refl _, ha⟩
  · simp [Script.full]
  · intro m n h1 h2 h3
    exact find?_map_key (fun p : Nat × Nat => some (c.slice p.1 p.2)) (m, n) _
      (Script.mem_fullKeys.mpr ⟨h1, h2, h3⟩)

theorem progress_gen {t : Task} {c : Chain} {db : DB} {sc : Script} (A : Std t c) (hdeps : t.deps = [])
    (hsc : ScriptOK c sc) (hinv : Inv t c (t.start - 1) db) (hk : KeysOK t c db)
    (hstop : t.stop = 0 ∨ pos t db < t.stop) (hfull : ScriptFull c (pos t db) sc) :
    ∃ n, (converge t db sc none).outcome = .ok n ∧ pos t db < n ∧ n ≤ c.head ∧ (0 < t.stop → n ≤ t.stop) := by
  cases hl : sc.latest with
  | nil => exact absurd hl hfull.latest_ne
  | cons a rest =>
    obtain ⟨n, hn1, hn2, rfl⟩ := hfull.latest a (by rw [hl]; exact List.mem_cons_self ..)
    have hclip : pos t db < clip t n := by
      unfold clip; split <;> omega
    obtain ⟨k, last, hk1, hk3, hl2, hi⟩ :=
      iter_full A hdeps { db := db, view := db, script := sc } n (c.hashAt n) rest hsc hinv hk
        (fun hnone => pos_none hnone ▸ hfull.hash) hl hn2 hfull.gets (by dsimp only; omega) hclip
    have hcl := clip_le t n
    refine ⟨last.num, ?_, by dsimp only at hl2 hk3; omega, by dsimp only at hl2 hk3; omega, fun hs => ?_⟩
    · rw [converge_eq]
      simp only [hit_none, Bool.false_eq_true, ↓reduceIte]
      rw [loop_succ, hi]
    · have := clip_stop t n hs
      dsimp only at hl2 hk3
      omega

/-- **progress** (C01): on a growing chain, from a state satisfying the invariant, with
    no stop configured, when the source is healthy during the step (`ScriptFull` at the task's
    position `pos t db`), the fault-free step SUCCEEDS and ADVANCES the position: it cannot answer
    `err`, `nothingNew`, `ahead`, `panic`, unwind, or hit the reorg limit.
    That the position is below the head follows from `ScriptFull` (`ScriptFull.lt_head`: the source
    reports a block above the position). -/
theorem progress (t : Task) (c : Chain) (db : DB) (sc : Script)
    (hc : c.WF) (hsc : ScriptOK c sc) (hstart : 0 < t.start) (hb : 1 ≤ t.batch) (hcc : 1 ≤ t.conc)
    (hcb : t.conc * t.batch < 2 ^ 63) (hhead : c.head < 2 ^ 62) (hdeps : t.deps = [])
    (hinv : Inv t c (t.start - 1) db) (hk : KeysOK t c db) (hstop : t.stop = 0)
    (hfull : ScriptFull c ((topOf (db.cur.filter (mineC t))).getD (t.start - 1)) sc) :
    ∃ n, (converge t db sc none).outcome = .ok n ∧
      (topOf (db.cur.filter (mineC t))).getD (t.start - 1) < n ∧ n ≤ c.head := by
  obtain ⟨n, h1, h2, h3, _⟩ :=
    progress_gen ⟨⟨hb, hcc, hcb⟩, hc, hstart, hhead⟩ hdeps hsc hinv hk (.inl hstop) hfull
  exact ⟨n, h1, h2, h3⟩

/-- **progress_to_stop** (C06): the same with a stop configured and not yet reached; the
    step advances and does not pass the stop. -/
theorem progress_to_stop (t : Task) (c : Chain) (db : DB) (sc : Script)
    (hc : c.WF) (hsc : ScriptOK c sc) (hstart : 0 < t.start) (hb : 1 ≤ t.batch) (hcc : 1 ≤ t.conc)
    (hcb : t.conc * t.batch < 2 ^ 63) (hhead : c.head < 2 ^ 62) (hdeps : t.deps = [])
    (hinv : Inv t c (t.start - 1) db) (hk : KeysOK t c db)
    (hstop : (topOf (db.cur.filter (mineC t))).getD (t.start - 1) < t.stop)
    (hfull : ScriptFull c ((topOf (db.cur.filter (mineC t))).getD (t.start - 1)) sc) :
    ∃ n, (converge t db sc none).outcome = .ok n ∧
      (topOf (db.cur.filter (mineC t))).getD (t.start - 1) < n ∧ n ≤ c.head ∧ n ≤ t.stop := by
  obtain ⟨n, h1, h2, h3, h4⟩ :=
    progress_gen ⟨⟨hb, hcc, hcb⟩, hc, hstart, hhead⟩ hdeps hsc hinv hk (.inr hstop) hfull
  exact ⟨n, h1, h2, h3, h4 (by omega)⟩

/-- one fault-free step against a healthy source (a fresh complete script for the current position) -/
def step (t : Task) (c : Chain) (db : DB) : DB :=
  (converge t db (Script.full c t ((topOf (db.cur.filter (mineC t))).getD (t.start - 1))) none).db

def run (t : Task) (c : Chain) : Nat → DB → DB
  | 0, db => db
  | n + 1, db => run t c n (step t c db)

theorem run_add (t : Task) (c : Chain) : ∀ (a b : Nat) (db : DB), run t c (a + b) db = run t c b (run t c a db)
  | 0, b, db => by rw [Nat.zero_add]; rfl
  | a + 1, b, db => by
    rw [show a + 1 + b = (a + b) + 1 by omega]
    exact run_add t c a b (step t c db)

theorem run_fix (t : Task) (c : Chain) (db : DB) (h : step t c db = db) : ∀ n, run t c n db = db
  | 0 => rfl
  | n + 1 => by show run t c n (step t c db) = db; rw [h]; exact run_fix t c db h n

/-- the position the iteration is heading for: the head, or the configured stop -/
def Goal (t : Task) (c : Chain) (T : Nat) : Prop :=
  (t.stop = 0 ∧ T = c.head) ∨ (0 < t.stop ∧ T = t.stop ∧ t.stop ≤ c.head ∧ t.start ≤ t.stop)

section
variable {t : Task} {c : Chain} (A : Std t c) (hdeps : t.deps = []) {T : Nat} (hT : Goal t c T)
include A hdeps hT

theorem step_adv (db : DB) (hinv : Inv t c (t.start - 1) db) (hk : KeysOK t c db) (hlt : pos t db < T) :
    Inv t c (t.start - 1) (step t c db) ∧ KeysOK t c (step t c db) ∧
      pos t db < pos t (step t c db) ∧ pos t (step t c db) ≤ T := by
  have hlh : pos t db < c.head := by
    rcases hT with ⟨_, h⟩ | ⟨_, h1, h2, _⟩ <;> omega
  obtain ⟨hfull, hsc⟩ := Script.full_ok c t (pos t db) hlh
  obtain ⟨n, hn1, _⟩ := progress_gen A hdeps hsc hinv hk
    (by rcases hT with ⟨h, _⟩ | ⟨_, h1, _⟩
        · exact .inl h
        · right; omega) hfull
  rcases step_shape A hsc hinv none with ⟨_, _, h3⟩ | ⟨k, last, hk1, _, hk3, hk4, hnum, hh, h⟩
  · exact absurd hn1 (h3 n)
  have hstep : step t c db = committed t db (c.slice (pos t db + 1) k) last := congrArg Result.db h
  have hpos : pos t (step t c db) = pos t db + k := by
    rw [hstep, pos_committed (by omega), hnum]
  refine ⟨hstep ▸ Inv_committed hinv hk1 hk3 hnum (hnum ▸ hh), keysOK_step t c db _ none hk, by omega, ?_⟩
  rw [hpos]
  rcases hT with ⟨_, h⟩ | ⟨h0, h1, _⟩
  · omega
  · have := hk4 h0; omega

omit hdeps in
theorem step_fix (db : DB) (hinv : Inv t c (t.start - 1) db) (heq : pos t db = T) :
    step t c db = db ∧
      (0 < t.stop → ∀ sc, (converge t db sc none).outcome = .done ∧ (converge t db sc none).db = db) := by
  rcases hT with ⟨h0, h⟩ | ⟨h0, h1, h2, h3⟩
  · refine ⟨?_, fun hs => by omega⟩
    rcases step_shape A (Script.full_scriptOK c t (pos t db) (by omega)) hinv none
      with ⟨h1, _⟩ | ⟨k, _, hk1, _, hk3, _⟩
    · exact h1
    · omega
  · have hdone : ∀ sc, (converge t db sc none).outcome = .done ∧ (converge t db sc none).db = db := by
      intro sc
      cases hl : db.latestCur t.src t.ig with
      | none => have := pos_none hl; have := A.start; omega
      | some x =>
        have := pos_some hl
        exact (done_iff t db sc none).1 x hl h0 (by omega) (by simp) (by simp)
    exact ⟨(hdone _).2, fun _ => hdone⟩

theorem reach : ∀ (m : Nat) (db : DB), Inv t c (t.start - 1) db → KeysOK t c db →
    pos t db ≤ T → T - pos t db ≤ m →
    Inv t c (t.start - 1) (run t c m db) ∧ KeysOK t c (run t c m db) ∧ pos t (run t c m db) = T
  | 0, db, hinv, hk, h1, h2 => ⟨hinv, hk, by show pos t db = T; omega⟩
  | m + 1, db, hinv, hk, h1, h2 => by
    show Inv t c (t.start - 1) (run t c m (step t c db)) ∧ KeysOK t c (run t c m (step t c db)) ∧
      pos t (run t c m (step t c db)) = T
    by_cases heq : pos t db = T
    · rw [(step_fix A hT db hinv heq).1]
      exact reach m db hinv hk h1 (by omega)
    · obtain ⟨a1, a2, a3, a4⟩ := step_adv A hdeps hT db hinv hk (by omega)
      exact reach m (step t c db) a1 a2 a4 (by omega)

end

/-- **reaches_head** (C01): on a growing chain `c`, with no stop configured, from
    any state satisfying the invariant (e.g. the empty database), after `m = head - pos t db`
    fault-free steps against the canonical healthy source (`run`: each step gets `Script.full`, the
    true head and every range answered) — or after any larger number of them — the recorded
    position IS the head and the task's table is EXACTLY the projection of blocks `start..head`,
    each once, in order; the invariant and the unique-key hypothesis still hold.
    Hypothesis `t.start - 1 ≤ c.head` (the chain has reached the block before the configured
    start).  Without it the initial position `start - 1` already lies beyond the head, `m = 0` is allowed, and
    "position = head" is false of the untouched database. -/
theorem reaches_head (t : Task) (c : Chain) (db : DB)
    (hc : c.WF) (hstart : 0 < t.start) (hb : 1 ≤ t.batch) (hcc : 1 ≤ t.conc)
    (hcb : t.conc * t.batch < 2 ^ 63) (hhead : c.head < 2 ^ 62) (hdeps : t.deps = [])
    (hinv : Inv t c (t.start - 1) db) (hk : KeysOK t c db) (hstop : t.stop = 0)
    (hsh : t.start - 1 ≤ c.head)
    (m : Nat) (hm : c.head - (topOf (db.cur.filter (mineC t))).getD (t.start - 1) ≤ m) :
    let db' := run t c m db
    Inv t c (t.start - 1) db' ∧ KeysOK t c db' ∧
    (topOf (db'.cur.filter (mineC t))).getD (t.start - 1) = c.head ∧
    db'.rows.filter (mine t) = (c.slice t.start (c.head - (t.start - 1))).flatMap (rowsFor t) := by
  intro db'
  obtain ⟨h1, h2, h3⟩ := reach ⟨⟨hb, hcc, hcb⟩, hc, hstart, hhead⟩ hdeps (T := c.head) (.inl ⟨hstop, rfl⟩) m db
    hinv hk (hinv.pos_le_head hsh) hm
  refine ⟨h1, h2, h3, ?_⟩
  have := h1.rows
  rwa [h3, Nat.sub_add_cancel hstart] at this

/-- **stopped_at_stop** (C06): with a stop configured within the chain
    (`start ≤ stop ≤ head`), from a state satisfying the invariant whose position has not passed
    the stop, after `m = stop - pos t db` fault-free steps against the canonical healthy source
    (`run`, as in `reaches_head`) — or any larger number — the position is exactly `stop`, the table
    is exactly the projection of blocks `start..stop`, and from then on EVERY step, whatever the
    source answers, reports `done` and leaves the database unchanged (in particular further healthy
    steps: the run is stationary).
    Hypothesis `pos t db ≤ t.stop` (holds for the empty database): the invariant alone allows
    positions beyond a stop configured later, and then "reaches position stop" is false. -/
theorem stopped_at_stop (t : Task) (c : Chain) (db : DB)
    (hc : c.WF) (hstart : 0 < t.start) (hb : 1 ≤ t.batch) (hcc : 1 ≤ t.conc)
    (hcb : t.conc * t.batch < 2 ^ 63) (hhead : c.head < 2 ^ 62) (hdeps : t.deps = [])
    (hinv : Inv t c (t.start - 1) db) (hk : KeysOK t c db)
    (hstop : 0 < t.stop) (hsh : t.stop ≤ c.head) (hss : t.start ≤ t.stop)
    (htop : (topOf (db.cur.filter (mineC t))).getD (t.start - 1) ≤ t.stop)
    (m : Nat) (hm : t.stop - (topOf (db.cur.filter (mineC t))).getD (t.start - 1) ≤ m) :
    let db' := run t c m db
    Inv t c (t.start - 1) db' ∧
    (topOf (db'.cur.filter (mineC t))).getD (t.start - 1) = t.stop ∧
    db'.rows.filter (mine t) = (c.slice t.start (t.stop - (t.start - 1))).flatMap (rowsFor t) ∧
    (∀ sc, (converge t db' sc none).outcome = .done ∧ (converge t db' sc none).db = db') ∧
    (∀ j, run t c j db' = db') := by
  intro db'
  have A : Std t c := ⟨⟨hb, hcc, hcb⟩, hc, hstart, hhead⟩
  have hT : Goal t c t.stop := .inr ⟨hstop, rfl, hsh, hss⟩
  obtain ⟨h1, h2, h3⟩ := reach A hdeps hT m db hinv hk htop hm
  obtain ⟨f1, f2⟩ := step_fix A hT (run t c m db) h1 h3
  refine ⟨h1, h3, ?_, f2 hstop, run_fix t c _ f1⟩
  have := h1.rows
  rwa [h3, Nat.sub_add_cancel hstart] at this

theorem Script.full_len64 {c : Chain} (hc : c.WF) (t : Task) (pos : Nat) : (Script.full c t pos).Len64 := by
  intro p bs hg b hb
  simp only [Script.full, List.mem_map, Prod.mk.injEq] at hg
  obtain ⟨q, _, rfl, h⟩ := hg
  obtain rfl := Option.some.inj h
  exact hc.len _ _ (mem_slice_num hc hb).2.2

/-- `step` over `convergeNL` (Proofs/WorldEval.lean), for evaluation -/
def stepNL (t : Task) (c : Chain) (db : DB) : DB :=
  (convergeNL t db (Script.full c t ((topOf (db.cur.filter (mineC t))).getD (t.start - 1))) none).db

theorem step_eq_NL {c : Chain} (hc : c.WF) (t : Task) (db : DB) : step t c db = stepNL t c db := by
  rw [step, converge_eq_NL (Script.full_len64 hc t _)]; rfl

namespace Ex

/-- an initial database holding only a row of another integration in the same table -/
def db0 : DB := { rows := [foreign] }

/-- `t1` with a stop configured at block 4 -/
def t4 : Task := { t1 with stop := 4 }

/-- the healthy script for a step of `t1` at position 3 of `c6`, in full -/
example : (Script.full c6 t1 3).latest = [some (5, c6.hashAt 5)] ∧
    (Script.full c6 t1 3).hash = [(3, some (c6.hashAt 3))] ∧
    (Script.full c6 t1 3).gets =
      [((4, 1), some (c6.slice 4 1)), ((4, 2), some (c6.slice 4 2)), ((5, 1), some (c6.slice 5 1))] := by
  decide +kernel

/-- `ScriptFull` / `ScriptOK` are satisfiable (here: position 0 of the 6-block chain) -/
example : ScriptFull c6 0 (Script.full c6 t1 0) ∧ ScriptOK c6 (Script.full c6 t1 0) :=
  Script.full_ok c6 t1 0 (by decide +kernel)

/-- the hypotheses of `progress` are jointly satisfiable, so its conclusion applies … -/
example : ∃ n, (converge t1 db0 (Script.full c6 t1 0) none).outcome = .ok n ∧ 0 < n ∧ n ≤ c6.head :=
  progress t1 c6 db0 (Script.full c6 t1 0) c6_wf (Script.full_ok c6 t1 0 (by decide +kernel)).2
    (by decide) (by decide) (by decide) (by decide) (by decide +kernel) rfl (by decide +kernel) (by decide +kernel) rfl
    (Script.full_ok c6 t1 0 (by decide +kernel)).1

/-- … and the concrete step indeed indexes blocks 1 and 2 -/
example : (converge t1 db0 (Script.full c6 t1 0) none).outcome = .ok 2 ∧
    (converge t1 db0 (Script.full c6 t1 0) none).scriptOk = true := by
  rw [converge_eq_NL (Script.full_len64 c6_wf t1 0)]; decide +kernel

/-- progress is NOT a consequence of the safety hypotheses alone: an honest (`ScriptOK`) but
    unhealthy source — here one whose `Get` fails — makes the step answer `err` -/
example : ScriptOK c6 { sc1 with gets := [((1, 1), none)] } ∧
    (converge t1 {} { sc1 with gets := [((1, 1), none)] } none).outcome = .err :=
  ⟨scriptOKb_sound _ _ (by decide +kernel), by decide +kernel⟩

/-- the hypotheses of `reaches_head` are jointly satisfiable (`m = head - pos = 5` steps), so its
    conclusion applies to the run from `db0` … -/
example : Inv t1 c6 (t1.start - 1) (run t1 c6 5 db0) ∧ KeysOK t1 c6 (run t1 c6 5 db0) ∧
    (topOf ((run t1 c6 5 db0).cur.filter (mineC t1))).getD (t1.start - 1) = c6.head ∧
    (run t1 c6 5 db0).rows.filter (mine t1) =
      (c6.slice t1.start (c6.head - (t1.start - 1))).flatMap (rowsFor t1) :=
  reaches_head t1 c6 db0 c6_wf (by decide) (by decide) (by decide) (by decide) (by decide +kernel) rfl
    (by decide +kernel) (by decide +kernel) rfl (by decide +kernel) 5 (by decide +kernel)

/-- … and the concrete run really reaches the head: positions 2, 4, 5 are recorded, the table holds
    the rows of blocks 1..5 once each in order, the other integration's row is untouched; the
    head is reached after 3 steps already and further steps change nothing -/
example : run t1 c6 5 db0 =
      { cur := [{ src := "s", ig := "i", num := 2, hash := hx '2' }, { src := "s", ig := "i", num := 4, hash := hx '4' },
                { src := "s", ig := "i", num := 5, hash := hx '5' }],
        rows := [foreign, row 1 "k1", row 2 "k2", row 3 "k3", row 4 "k4", row 5 "k5"] } ∧
    run t1 c6 3 db0 = run t1 c6 5 db0 ∧ run t1 c6 2 db0 ≠ run t1 c6 5 db0 := by
  simp only [run, step_eq_NL c6_wf]; decide +kernel

/-- the hypothesis `t.start - 1 ≤ c.head` of `reaches_head` is needed: a task configured to
    start beyond the head has initial position `start - 1 > head`, so `m = 0` is allowed -/
example : let t := { t1 with start := 100 }
    Inv t c6 (t.start - 1) {} ∧ KeysOK t c6 {} ∧ c6.head - (topOf (({} : DB).cur.filter (mineC t))).getD (t.start - 1) = 0 ∧
    (topOf ((run t c6 0 {}).cur.filter (mineC t))).getD (t.start - 1) ≠ c6.head := by decide +kernel

/-- the hypotheses of `stopped_at_stop` are jointly satisfiable (`m = stop - pos = 4` steps) … -/
example : Inv t4 c6 (t4.start - 1) (run t4 c6 4 db0) ∧
    (topOf ((run t4 c6 4 db0).cur.filter (mineC t4))).getD (t4.start - 1) = t4.stop ∧
    (run t4 c6 4 db0).rows.filter (mine t4) = (c6.slice t4.start (t4.stop - (t4.start - 1))).flatMap (rowsFor t4) ∧
    (∀ sc, (converge t4 (run t4 c6 4 db0) sc none).outcome = .done ∧
      (converge t4 (run t4 c6 4 db0) sc none).db = run t4 c6 4 db0) ∧
    (∀ j, run t4 c6 j (run t4 c6 4 db0) = run t4 c6 4 db0) :=
  stopped_at_stop t4 c6 db0 c6_wf (by decide) (by decide) (by decide) (by decide) (by decide +kernel) rfl
    (by decide +kernel) (by decide +kernel) (by decide) (by decide +kernel) (by decide) (by decide +kernel)
    4 (by decide +kernel)

/-- … and the concrete run stops at block 4 although the source reports head 5; the next step
    reports `done` -/
example : run t4 c6 4 db0 =
      { cur := [{ src := "s", ig := "i", num := 2, hash := hx '2' }, { src := "s", ig := "i", num := 4, hash := hx '4' }],
        rows := [foreign, row 1 "k1", row 2 "k2", row 3 "k3", row 4 "k4"] } ∧
    (converge t4 (run t4 c6 4 db0) (Script.full c6 t4 4) none).outcome = .done := by
  simp only [run, step_eq_NL c6_wf, converge_eq_NL (Script.full_len64 c6_wf t4 4)]; decide +kernel

end Ex

end Shovel.World
