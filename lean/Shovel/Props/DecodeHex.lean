import Shovel.Model.Row
import Shovel.Props.C17
/-
  C17, and C12 for filter arguments: `Shovel.Row.decodeHexStr`, the model of `eth.DecodeHex`:
  every byte string round-trips through its hex rendering (either letter case, with or without
  the `0x` / `0X` prefix, leading zero bytes kept), an odd number of digits is read as if a `0`
  had been written in front, and the result is never longer than half the input (rounded up).
-/
namespace Shovel.Row

/-- `hexChar` of Model/Basic with the letter case left open: the statements cover both -/
def hexDigit (upper : Bool) (n : Nat) : Char :=
  if n < 10 then Char.ofNat (48 + n) else if upper then Char.ofNat (55 + n) else Char.ofNat (87 + n)

def hexStr (upper : Bool) : List Nat → List Char
  | [] => []
  | b :: bs => hexDigit upper (b / 16) :: hexDigit upper (b % 16) :: hexStr upper bs

/-- `if len(s) >= 2 && s[0] == '0' && (s[1] == 'x' || s[1] == 'X') { s = s[2:] }` -/
def strip0x : List Char → List Char
  | '0' :: 'x' :: r => r
  | '0' :: 'X' :: r => r
  | r => r

/-- `if len(s)%2 == 1 { s = "0" + s }` -/
def padOdd (cs : List Char) : List Char := if cs.length % 2 == 1 then '0' :: cs else cs

theorem decodeHexStr_eq (s : String) :
    decodeHexStr s = decodeHexStr.go (padOdd (strip0x s.toList)) := by
  unfold decodeHexStr
  simp only [padOdd]
  congr 1
  all_goals (unfold strip0x; split <;> rfl)

theorem decodeHexStr_ofList (l : List Char) :
    decodeHexStr (String.ofList l) = decodeHexStr.go (padOdd (strip0x l)) := by
  rw [decodeHexStr_eq, String.toList_ofList]

theorem hexDigit_val : ∀ n, n < 16 → ∀ u, hexDigitVal (hexDigit u n).toNat = some n := by
  decide

theorem hexDigit_ne_x : ∀ n, n < 16 → ∀ u, hexDigit u n ≠ 'x' ∧ hexDigit u n ≠ 'X' := by
  decide

theorem hexStr_length (u : Bool) (bs : List Nat) : (hexStr u bs).length = 2 * bs.length := by
  induction bs with
  | nil => rfl
  | cons b bs ih => simp only [hexStr, List.length_cons, ih]; omega

theorem decodeHexStr_go_hexStr (u : Bool) (bs : List Nat) (hb : ∀ b ∈ bs, b < 256) :
    decodeHexStr.go (hexStr u bs) = bs := by
  induction bs with
  | nil => rfl
  | cons b bs ih =>
    have hlt : b < 256 := hb b (by simp)
    have h1 := hexDigit_val (b / 16) (by omega) u
    have h2 := hexDigit_val (b % 16) (by omega) u
    simp only [hexStr, decodeHexStr.go, h1, h2, ih (fun x hx => hb x (by simp [hx])), Nat.div_add_mod']

theorem hexStr_ne_x (u : Bool) (bs : List Nat) (hb : ∀ b ∈ bs, b < 256) :
    ∀ c ∈ hexStr u bs, c ≠ 'x' ∧ c ≠ 'X' := by
  induction bs with
  | nil => simp [hexStr]
  | cons b bs ih =>
    have hlt : b < 256 := hb b (by simp)
    simp only [hexStr, List.mem_cons, forall_eq_or_imp]
    exact ⟨hexDigit_ne_x _ (by omega) u, hexDigit_ne_x _ (by omega) u, ih fun x hx => hb x (by simp [hx])⟩

theorem strip0x_append (pre cs : List Char) (hpre : pre = [] ∨ pre = ['0', 'x'] ∨ pre = ['0', 'X'])
    (h : ∀ c ∈ cs, c ≠ 'x' ∧ c ≠ 'X') : strip0x (pre ++ cs) = cs := by
  rcases hpre with rfl | rfl | rfl
  · -- a string of hex digits does not begin with `0x` / `0X`: its second character is no `x`
    rw [List.nil_append]
    unfold strip0x
    split
    · exact absurd rfl (h 'x' (by simp)).1
    · exact absurd rfl (h 'X' (by simp)).2
    · rfl
  · rfl
  · rfl

theorem padOdd_even (cs : List Char) (h : cs.length % 2 = 0) : padOdd cs = cs := by
  simp [padOdd, h]

theorem padOdd_odd (cs : List Char) (h : cs.length % 2 = 1) : padOdd cs = '0' :: cs := by
  simp [padOdd, h]

/-- **decodeHex_exact** (C12, C17): every byte string round-trips, with or without the prefix, in either
    letter case — including byte strings that begin with zero bytes, and the empty one. -/
theorem decodeHex_exact (bs : List Nat) (hb : ∀ b ∈ bs, b < 256) (upper : Bool) (pre : List Char)
    (hpre : pre = [] ∨ pre = ['0', 'x'] ∨ pre = ['0', 'X']) :
    decodeHexStr (String.ofList (pre ++ hexStr upper bs)) = bs := by
  rw [decodeHexStr_ofList, strip0x_append pre _ hpre (hexStr_ne_x upper bs hb),
    padOdd_even _ (by rw [hexStr_length]; omega)]
  exact decodeHexStr_go_hexStr upper bs hb

/-- **decodeHex_odd** (C17): an odd number of digits is read as if a `0` had been written in front:
    the first byte is the lone digit's value. Holds for the empty prefix too. -/
theorem decodeHex_odd (bs : List Nat) (hb : ∀ b ∈ bs, b < 256) (d : Nat) (hd : d < 16)
    (upper : Bool) (pre : List Char)
    (hpre : pre = [] ∨ pre = ['0', 'x'] ∨ pre = ['0', 'X']) :
    decodeHexStr (String.ofList (pre ++ hexDigit upper d :: hexStr upper bs)) = d :: bs := by
  rw [decodeHexStr_ofList,
    strip0x_append pre _ hpre
      (List.forall_mem_cons.2 ⟨hexDigit_ne_x d hd upper, hexStr_ne_x upper bs hb⟩),
    padOdd_odd _ (by rw [List.length_cons, hexStr_length]; omega)]
  have h0 : hexDigitVal ('0' : Char).toNat = some 0 := by decide
  simp only [decodeHexStr.go, h0, hexDigit_val d hd upper, decodeHexStr_go_hexStr upper bs hb, Nat.zero_mul,
    Nat.zero_add]

theorem decodeHexStr_go_spec (cs : List Char) :
    (decodeHexStr.go cs).length ≤ cs.length / 2 ∧ ∀ b ∈ decodeHexStr.go cs, b < 256 := by
  fun_induction decodeHexStr.go cs with
  | case1 a c rest x y hx hy ih =>
    have := hexDigitVal_lt hx
    have := hexDigitVal_lt hy
    exact ⟨by simp only [List.length_cons]; omega, List.forall_mem_cons.2 ⟨by omega, ih.2⟩⟩
  | case2 | case3 => simp

theorem strip0x_length_le (cs : List Char) : (strip0x cs).length ≤ cs.length := by
  unfold strip0x
  split
  · simp only [List.length_cons]; omega
  · simp only [List.length_cons]; omega
  · exact Nat.le_refl _

theorem padOdd_length_le (cs : List Char) : (padOdd cs).length ≤ cs.length + 1 := by
  fun_cases padOdd cs <;> simp

/-- **decodeHex_length** (C17): the result has at most ⌈len/2⌉ bytes. -/
theorem decodeHex_length (s : String) : (decodeHexStr s).length ≤ (s.length + 1) / 2 := by
  rw [decodeHexStr_eq]
  have h1 := (decodeHexStr_go_spec (padOdd (strip0x s.toList))).1
  have hp := padOdd_length_le (strip0x s.toList)
  have h2 := strip0x_length_le s.toList
  have h3 : s.toList.length = s.length := String.length_toList
  omega

/-- **decodeHex_lt256** (C17) -/
theorem decodeHex_lt256 (s : String) : ∀ b ∈ decodeHexStr s, b < 256 := by
  rw [decodeHexStr_eq]
  exact (decodeHexStr_go_spec _).2

example : decodeHexStr "0x0001ab" = [0, 1, 171] := by decide +kernel
example : decodeHexStr "0X00" = [0] := by decide +kernel
example : decodeHexStr "0x" = [] := by decide +kernel
example : decodeHexStr "abc" = [10, 188] := by decide +kernel
-- the kernel decodes a string literal in quadratic time; here its characters are handed over directly
example : decodeHexStr "0x0000000000000000000000000000000000000000" = List.replicate 20 0 := by
  rw [show "0x0000000000000000000000000000000000000000" = String.ofList _ from rfl, decodeHexStr_ofList]
  decide +kernel
example : (decodeHexStr "0x0000000000000000000000000000000000000000").length = 20 := by
  rw [show "0x0000000000000000000000000000000000000000" = String.ofList _ from rfl, decodeHexStr_ofList]
  decide +kernel
example : decodeHexStr "0x12zz34" = [18] := by decide +kernel
example : decodeHexStr "00FFaB" = [0, 255, 171] := by decide +kernel
example : decodeHexStr "0Xf" = [15] := by decide +kernel
-- a non-prefixed string that begins `0x` IS stripped (not a hex rendering: 'x' is no digit)
example : decodeHexStr "0x0x12" = [] := by decide +kernel

#print axioms decodeHex_exact
#print axioms decodeHex_odd
#print axioms decodeHex_length
#print axioms decodeHex_lt256

end Shovel.Row
