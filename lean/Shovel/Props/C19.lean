import Shovel.Model.Auth
import Shovel.Gen.Routes
/-
  C19 — dashboard pages that change configuration require authentication.
-/
namespace Shovel.Auth

/-- **served_iff** (C19): a protected handler runs iff authentication is disabled, or the request is
    from a loopback address while loopback authentication is not enforced, or it carries a session
    minted by this process; otherwise the answer is the redirect to the login page. -/
theorem served_iff (cfg : Cfg) (myKey : Nat) (lb : Bool) (c : Cookie) :
    authn cfg myKey lb c = .served ↔
      (cfg.disableAuthn = true ∨ (cfg.enableLoopbackAuthn = false ∧ lb = true) ∨ c = .minted myKey) := by
  unfold authn sessionOK
  cases cfg with
  | mk d e =>
    cases d <;> cases e <;> cases lb <;> cases c <;> simp

theorem not_served_redirect (cfg : Cfg) (myKey : Nat) (lb : Bool) (c : Cookie)
    (h : authn cfg myKey lb c ≠ .served) : authn cfg myKey lb c = .redirectLogin := by
  cases hr : authn cfg myKey lb c with
  | served => exact absurd hr h
  | redirectLogin => rfl

/-- **login_sound** (C19): a session is issued only by a POST whose password matches; a wrong password
    never issues one. -/
theorem login_sound (myKey : Nat) (method : String) (ok : Bool) (k : Nat)
    (h : login myKey method ok = .issued k) : method = "POST" ∧ ok = true ∧ k = myKey := by
  revert h
  fun_cases login myKey method ok with
  | case2 _ hp hok => rintro ⟨⟩; exact ⟨beq_iff_eq.mp hp, hok, rfl⟩
  | case1 | case3 | case4 => nofun

theorem step_issued (cfg : Cfg) (myKey : Nat) (issued : Issued) (r : Req) :
    (step cfg myKey issued r).1 = issued ∨
    (r = .loginReq "POST" true ∧ (step cfg myKey issued r).1 = myKey :: issued) := by
  cases r with
  | protectedReq lb c => exact .inl rfl
  | loginReq m ok =>
    simp only [step]
    cases hl : login myKey m ok with
    | issued k =>
      obtain ⟨rfl, rfl, rfl⟩ := login_sound myKey m ok k hl
      exact .inr ⟨rfl, rfl⟩
    | _ => exact .inl rfl

/-- **history_inv** (C19): over every request history the set of issued tokens only ever contains this
    process' key and grows only by a correct-password POST -/
theorem history_inv (cfg : Cfg) (myKey : Nat) (reqs : List Req) :
    let issued := reqs.foldl (fun acc r => (step cfg myKey acc r).1) []
    (∀ k ∈ issued, k = myKey) ∧
    (issued ≠ [] → ∃ r ∈ reqs, r matches .loginReq "POST" true) := by
  -- an invariant of the fold; `List.foldlRecOn` hands the step a request of `reqs`
  refine List.foldlRecOn (motive := fun issued : Issued => (∀ k ∈ issued, k = myKey) ∧
    (issued ≠ [] → ∃ r ∈ reqs, r matches .loginReq "POST" true)) reqs _ ⟨nofun, (absurd rfl ·)⟩ ?_
  intro issued hi r hr
  rcases step_issued cfg myKey issued r with h | ⟨rfl, h⟩ <;> rw [h]
  · exact hi
  · exact ⟨by simpa using hi.1, fun _ => ⟨_, hr, rfl⟩⟩

open Shovel.Gen.Routes

/-- **routes_wrapped** (C19): over the routes regenerated from cmd/shovel/main.go, each of the five handlers
    named is registered, and every registration of it goes through `Authn`. The five are listed by hand: the
    handlers of shovel/web that store or prepare a source or an integration, and `Updates` (the task
    positions); the other routes (`Index`, `Diag`, `Prom`, `Login`, pprof) are open. -/
theorem routes_wrapped :
    (["wh.SaveSource", "wh.SaveIntegration", "wh.AddSource", "wh.AddIntegration", "wh.Updates"].all fun h =>
      routes.any (fun r => r.2.1 == h) && routes.all (fun r => r.2.1 != h || r.2.2)) = true := by
  decide +kernel

/-- **wrappers_pass_request_unchanged** (C19): over the facts regenerated from cmd/shovel/main.go, the
    handlers wrapped around the whole route table (the access log: `wrappers = ["log"]`) hand the request they received
    on to the routes — no statement of theirs writes its remote address, a header or a cookie, or
    substitutes another request. So the address `Authn` classifies is the connection's, not one a
    client claimed in a header. -/
theorem wrappers_pass_request_unchanged : wrapperRequestWrites = [] := rfl

/-- **session_key_encapsulated** (C19): the model's `myKey` — the process' cookie key pair — is private to the
    gate. In shovel/web/web.go the session configuration holding it is touched in exactly four places: `New`
    appends the freshly generated key, `Login` sets the cookie attributes and mints through `session.Set`,
    `Authn` verifies through `session.Get`. No handler (open or protected) reads the key, so no response can
    carry either half of it and a cookie `Authn` accepts can only have been minted by `Login`. -/
theorem session_key_encapsulated :
    sessUses = ["New: h.sess.Keys", "Authn: session.Get", "Login: h.sess.Cookie", "Login: session.Set"] :=
  rfl

example : wrappers ≠ [] := by decide
example : authn ⟨false, true, ⟩ 7 true .none = .redirectLogin := by decide
example : authn ⟨false, false⟩ 7 true .garbage = .served := by decide
example : authn ⟨false, true⟩ 7 false (.minted 8) = .redirectLogin := by decide
example : authn ⟨false, true⟩ 7 false (.minted 7) = .served := by decide

end Shovel.Auth
