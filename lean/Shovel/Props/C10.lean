import Shovel.Proofs.AbiStep
/-
  C10 — the ABI decoder `scan` is total (never panics, never reads outside the input), every
  decoded cell is a sub-range of the input, and the number of rows it makes is bounded by a
  polynomial in the input length (`rowBound`).
-/
namespace Shovel.Abi

mutual
/-- `∀ p ∈ t.sels, p < n` of the C09 chain as a recursive test; no lemma relates the two
    spellings -/
def Ty.posOK (n : Nat) : Ty → Bool
  | .stat s => match s with | some p => p < n | none => true
  | .dyn s => match s with | some p => p < n | none => true
  | .arr _ e => e.posOK n
  | .tup fs => fs.posOK n
def Tys.posOK (n : Nat) : Tys → Bool
  | .nil => true
  | .cons t ts => t.posOK n && ts.posOK n
end

def cellOK (b : Buf) (c : Option (Nat × Nat)) : Prop :=
  match c with | none => True | some (lo, hi) => lo ≤ hi ∧ hi ≤ b.data.length

structure St.WF (b : Buf) (s : St) : Prop where
  single_len : s.single.length = s.ncols
  rows_len : ∀ row ∈ s.coll, row.length = s.ncols
  n_le : s.n ≤ s.coll.length
  single_ok : ∀ c ∈ s.single, cellOK b c
  rows_ok : ∀ row ∈ s.coll, ∀ c ∈ row, cellOK b c

def RefOK (s : St) : RowRef → Prop
  | .single => True
  | .coll i => i < s.coll.length

/-- `all = true`: every physical row of `coll` holds sub-ranges (this is `St.WF`).
    `all = false`: only the *live* rows (index `< n`) do — this is what `Result.Scan` can rely on,
    because rows beyond `n` are stale leftovers of earlier scans over other inputs.
    The `all = true` instance serves `scan_total` alone, whose statement speaks of `St.WF`. -/
structure St.WFg (all : Bool) (b : Buf) (s : St) : Prop where
  single_len : s.single.length = s.ncols
  rows_len : ∀ row ∈ s.coll, row.length = s.ncols
  n_le : s.n ≤ s.coll.length
  single_ok : ∀ c ∈ s.single, cellOK b c
  rows_ok : ∀ i row, s.coll[i]? = some row → (all = true ∨ i < s.n) → ∀ c ∈ row, cellOK b c

def RefOKg (all : Bool) (s : St) : RowRef → Prop
  | .single => True
  | .coll i => i < s.coll.length ∧ (all = true ∨ i < s.n)

theorem St.WF_iff_WFg (b : Buf) (s : St) : s.WF b ↔ s.WFg true b := by
  constructor
  · intro h
    refine ⟨h.single_len, h.rows_len, h.n_le, h.single_ok, ?_⟩
    intro i row hi _ c hc
    exact h.rows_ok row (List.mem_of_getElem? hi) c hc
  · intro h
    refine ⟨h.single_len, h.rows_len, h.n_le, h.single_ok, ?_⟩
    intro row hrow c hc
    obtain ⟨i, hi⟩ := List.getElem?_of_mem hrow
    exact h.rows_ok i row hi (Or.inl rfl) c hc

theorem RefOK_iff_RefOKg (s : St) (r : RowRef) : RefOK s r ↔ RefOKg true s r := by
  cases r <;> simp [RefOK, RefOKg]

/-- `s'` extends `s`: same columns, no row lost, no live row dropped — what keeps a row reference
    valid (`RefOKg.mono`) -/
structure Ext (all : Bool) (b : Buf) (s s' : St) : Prop where
  wf : s'.WFg all b
  ncols : s'.ncols = s.ncols
  coll_mono : s.coll.length ≤ s'.coll.length
  n_mono : s.n ≤ s'.n

theorem Ext.refl {all b s} (h : St.WFg all b s) : Ext all b s s := ⟨h, rfl, Nat.le_refl _, Nat.le_refl _⟩

theorem Ext.trans {all b s s' s''} (h1 : Ext all b s s') (h2 : Ext all b s' s'') : Ext all b s s'' :=
  ⟨h2.wf, h2.ncols.trans h1.ncols, Nat.le_trans h1.coll_mono h2.coll_mono,
    Nat.le_trans h1.n_mono h2.n_mono⟩

theorem RefOKg.mono {all b s s' r} (h : RefOKg all s r) (e : Ext all b s s') : RefOKg all s' r := by
  cases r with
  | single => trivial
  | coll i =>
    obtain ⟨h1, h2⟩ := h
    refine ⟨Nat.lt_of_lt_of_le h1 e.coll_mono, ?_⟩
    rcases h2 with h2 | h2
    · exact Or.inl h2
    · exact Or.inr (Nat.lt_of_lt_of_le h2 e.n_mono)

/-- the postcondition of every step: `err`, or `ok` with an extension of the state -/
def Good (all : Bool) (b : Buf) (s : St) : Res St → Prop
  | .ok s' => Ext all b s s'
  | .err => True
  | .panic => False
  | .overread => False

theorem Good.weaken {all b s s'} {x : Res St} (e : Ext all b s s') (hx : Good all b s' x) :
    Good all b s x := by
  cases x with
  | ok s'' => exact Ext.trans e hx
  | err => trivial
  | panic => exact hx
  | overread => exact hx

theorem Good.bind {all b s} {x : Res St} {f : St → Res St} (hx : Good all b s x)
    (hf : ∀ s', Ext all b s s' → Good all b s' (f s')) : Good all b s (x >>= f) := by
  cases x with
  | ok s' => exact Good.weaken hx (hf s' hx)
  | err => trivial
  | panic => exact hx
  | overread => exact hx

theorem Good.outcome {all b s} {x : Res St} (h : Good all b s x) :
    x = .err ∨ ∃ s', x = .ok s' ∧ Ext all b s s' := by
  cases x with
  | ok s' => exact .inr ⟨s', rfl, h⟩
  | err => exact .inl rfl
  | panic => exact False.elim h
  | overread => exact False.elim h

theorem cellOK_none (b : Buf) : cellOK b none := trivial

theorem emptyRow_ok {b : Buf} {k : Nat} : ∀ c ∈ emptyRow k, cellOK b c := by
  intro c hc
  rw [(List.mem_replicate.mp hc).2]
  exact cellOK_none b

theorem getRow_ext {all : Bool} {b : Buf} {s : St} (hs : s.WFg all b) :
    Ext all b s s.getRow.1 ∧ RefOKg all s.getRow.1 s.getRow.2 ∧ s.getRow.1.n = s.n + 1 := by
  obtain ⟨c, hc, hlt, hrl, hg⟩ := getRow_eq hs.n_le hs.rows_len
  rw [hg]
  have hlen : s.coll.length ≤ c.length := by rcases hc with rfl | rfl <;> simp
  refine ⟨⟨⟨hs.single_len, ?_, ?_, hs.single_ok, ?_⟩, rfl, ?_, Nat.le_succ _⟩,
    ⟨?_, .inr (Nat.lt_succ_self _)⟩, rfl⟩
  · intro row hrow
    rcases List.mem_or_eq_of_mem_set hrow with h | rfl
    · exact hrl row h
    · simp [emptyRow]
  · show s.n + 1 ≤ (c.set s.n _).length
    rw [List.length_set]; omega
  · intro i row hi hcond
    simp only at hi hcond
    rw [List.getElem?_set] at hi
    split at hi
    · injection hi with hi
      subst hi; exact emptyRow_ok
    · next hne =>
      have hold : s.coll[i]? = some row → ∀ c ∈ row, cellOK b c := fun h =>
        hs.rows_ok i row h (hcond.imp_right fun h => by omega)
      rcases hc with rfl | rfl
      · exact hold hi
      · rw [List.getElem?_append] at hi
        split at hi
        · exact hold hi
        · rw [List.mem_singleton.mp (List.mem_of_getElem? hi)]; exact emptyRow_ok
  · show s.coll.length ≤ (c.set s.n _).length
    rw [List.length_set]; exact hlen
  · show s.n < (c.set s.n _).length
    rw [List.length_set]; exact hlt

theorem elemSel_ext {all : Bool} {b : Buf} (e : Ty) {r : RowRef} {s : St} (hs : s.WFg all b)
    (hr : RefOKg all s r) :
    Ext all b s (elemSel e r s).1 ∧ RefOKg all (elemSel e r s).1 (elemSel e r s).2 := by
  cases ha : e.isArr
  · rw [elemSel_row ha]; exact ⟨(getRow_ext hs).1, (getRow_ext hs).2.1⟩
  · rw [elemSel_arr ha]; exact ⟨Ext.refl hs, hr⟩

theorem setCol_good {all : Bool} {b : Buf} {s : St} (hs : s.WFg all b) {r : RowRef}
    (hr : RefOKg all s r) {p : Nat} (hp : p < s.ncols) {v : Nat × Nat} (hv : cellOK b (some v)) :
    Good all b s (s.setCol r p v) := by
  cases r with
  | single =>
    unfold St.setCol
    rw [if_pos (by rw [hs.single_len]; exact hp)]
    refine ⟨⟨?_, hs.rows_len, hs.n_le, ?_, hs.rows_ok⟩, rfl, Nat.le_refl _, Nat.le_refl _⟩
    · show (s.single.set p (some v)).length = s.ncols
      rw [List.length_set]; exact hs.single_len
    · intro c hc
      rcases List.mem_or_eq_of_mem_set hc with h | h
      · exact hs.single_ok c h
      · subst h; exact hv
  | coll i =>
    obtain ⟨hi, hcond⟩ := hr
    unfold St.setCol
    rw [List.getElem?_eq_getElem hi]
    simp only
    have hrow : (s.coll[i]).length = s.ncols := hs.rows_len _ (List.getElem_mem _)
    rw [if_pos (by rw [hrow]; exact hp)]
    refine ⟨⟨hs.single_len, ?_, ?_, hs.single_ok, ?_⟩, rfl, ?_, Nat.le_refl _⟩
    · intro row hmem
      rcases List.mem_or_eq_of_mem_set hmem with h | h
      · exact hs.rows_len row h
      · subst h; rw [List.length_set]; exact hrow
    · show s.n ≤ (s.coll.set i _).length
      rw [List.length_set]; exact hs.n_le
    · intro j row hj hc c hcm
      simp only at hj hc
      by_cases hij : i = j
      · rw [List.getElem?_set, if_pos hij, if_pos hi] at hj
        injection hj with hj
        subst hj
        rcases List.mem_or_eq_of_mem_set hcm with h | h
        · exact hs.rows_ok i _ (List.getElem?_eq_getElem hi) hcond c h
        · subst h; exact hv
      · rw [List.getElem?_set, if_neg hij] at hj
        exact hs.rows_ok j row hj hc c hcm
    · show s.coll.length ≤ (s.coll.set i _).length
      rw [List.length_set]; exact Nat.le_refl _

theorem putSel_good {all : Bool} {b : Buf} (hb : b.WF) {off a hi : Int} (ha : 0 ≤ a) (hah : a ≤ hi)
    (hh : off + hi ≤ b.data.length) {sel : Option Nat} {r : RowRef} {s : St} (hs : s.WFg all b)
    (hr : RefOKg all s r) (hp : (Ty.stat sel).posOK s.ncols = true) :
    Good all b s (putSel b off a hi sel r s) := by
  cases sel with
  | none => exact Ext.refl hs
  | some p =>
    unfold putSel
    rw [slice_eq hb ha hah hh]
    exact setCol_good hs hr (by simpa [Ty.posOK] using hp) (by show _ ≤ _ ∧ _ ≤ _; omega)

theorem arrLoop_good (all : Bool) (b : Buf) (hb : b.WF) (e : Ty) (off start : Int) (hstart : 0 ≤ start)
    (ih : ∀ (off' : Int) r s, 0 ≤ off' → off' ≤ b.data.length → St.WFg all b s → RefOKg all s r →
      e.posOK s.ncols = true → Good all b s (scan b e off' r s)) (h0 : 0 ≤ off) :
    ∀ (n : Nat) (pos : Int) (r : RowRef) (s : St), 0 ≤ pos → s.WFg all b → RefOKg all s r →
      e.posOK s.ncols = true → Good all b s (loopN n pos r s (arrBody b e off start))
  | 0, _, _, _, _, hs, _, _ => Ext.refl hs
  | n + 1, pos, r, s, hpos, hs, hr, hp => by
    rw [arrLoop_succ]
    rcases child_cases hb e off hstart hpos with h | ⟨c, h⟩ <;> rw [h]
    · trivial
    · obtain ⟨c1, c2, _, c4⟩ := child_ok h
      obtain ⟨q1, q2⟩ := elemSel_ext e hs hr
      refine Good.weaken q1 (Good.bind
        (ih c.1 _ _ (by omega) c2 q1.wf q2 (by rw [q1.ncols]; exact hp)) fun s' he => ?_)
      exact arrLoop_good all b hb e off start hstart ih h0 n c.2 _ s' (by rw [c4]; omega) he.wf
        (q2.mono he) (by rw [he.ncols, q1.ncols]; exact hp)

mutual
/-- **scan_good** (C10): `scan` on arbitrary bytes returns `err` or a well-formed extension of the
    state, under either reading of `all`; `scan_total` is `all = true`, `resultScan_total` uses
    `all = false`. -/
theorem scan_good (all : Bool) (b : Buf) (hb : b.WF) (t : Ty) (off : Int) (h0 : 0 ≤ off)
    (h1 : off ≤ b.data.length) (r : RowRef) (s : St) (hs : s.WFg all b) (hr : RefOKg all s r)
    (hp : t.posOK s.ncols = true) : Good all b s (scan b t off r s) := by
  cases t with
  | stat sel =>
    rw [scan_stat]
    split
    · trivial
    · next hlen =>
      unfold Buf.len at hlen
      exact putSel_good hb (by omega) (by omega) (by omega) hs hr hp
  | dyn sel =>
    rw [scan_dyn]
    rcases readInt_cases hb off (Int.le_refl 0) with h | ⟨n, h⟩ <;> rw [h]
    · trivial
    · have := readInt_ok h
      rw [Res.bind_ok]
      split
      · exact Ext.refl hs
      · split
        · trivial
        · next hn =>
          unfold Buf.len at hn
          exact putSel_good hb (by omega) (by omega) (by omega) hs hr hp
  | arr k e =>
    have loop := fun start hstart => arrLoop_good all b hb e off start hstart
      (fun off' r' s' a1 a2 => scan_good all b hb e off' a1 a2 r' s') h0
    rw [scan_arr]
    by_cases hsel : (!e.hasSelect) = true
    · rw [if_pos hsel]; exact Ext.refl hs
    rw [if_neg hsel]
    by_cases hk : k = 0
    · rw [if_pos hk]
      rcases readInt_cases hb off (Int.le_refl 0) with h | ⟨n, h⟩ <;> rw [h]
      · trivial
      · exact loop 32 (by omega) _ 32 r s (by omega) hs hr hp
    · rw [if_neg hk]; exact loop 0 (by omega) _ 0 r s (by omega) hs hr hp
  | tup fs =>
    rw [scan_tup]
    split
    · exact Ext.refl hs
    · exact scanTup_good all b hb fs off h0 h1 0 (Int.le_refl 0) r s hs hr hp
theorem scanTup_good (all : Bool) (b : Buf) (hb : b.WF) (fs : Tys) (off : Int) (h0 : 0 ≤ off)
    (h1 : off ≤ b.data.length) (pos : Int) (hpos : 0 ≤ pos) (r : RowRef) (s : St) (hs : s.WFg all b)
    (hr : RefOKg all s r) (hp : fs.posOK s.ncols = true) :
    Good all b s (scanTup b fs off pos r s) := by
  cases fs with
  | nil => rw [scanTup_nil]; exact Ext.refl hs
  | cons f rest =>
    have hp' : f.posOK s.ncols = true ∧ rest.posOK s.ncols = true := by
      simpa [Tys.posOK] using hp
    rw [scanTup_cons]
    rcases child_cases hb f off (Int.le_refl 0) hpos with h | ⟨c, h⟩ <;> rw [h]
    · trivial
    · obtain ⟨c1, c2, _, c4⟩ := child_ok h
      exact Good.bind (scan_good all b hb f c.1 (by omega) c2 r s hs hr hp'.1) fun s' he =>
        scanTup_good all b hb rest off h0 h1 c.2 (by rw [c4]; omega) r s' he.wf (hr.mono he)
          (by rw [he.ncols]; exact hp'.2)
end

/-- **scan_total** (C10): for every type tree, every byte string, every capacity
    `cap ≥ len`, every offset inside the data: `scan` returns `ok` or `err` — never `panic`, never
    `overread` — and every cell of an `ok` state is a sub-range `lo ≤ hi ≤ len` of the input. -/
theorem scan_total (b : Buf) (hb : b.WF) (t : Ty) (off : Int) (hoff : 0 ≤ off ∧ off ≤ b.data.length)
    (r : RowRef) (s : St) (hs : s.WF b) (hr : RefOK s r) (hp : t.posOK s.ncols = true) :
    scan b t off r s = .err ∨
    ∃ s', scan b t off r s = .ok s' ∧ s'.WF b ∧ s'.ncols = s.ncols ∧ s.coll.length ≤ s'.coll.length := by
  rcases (scan_good true b hb t off hoff.1 hoff.2 r s ((St.WF_iff_WFg b s).mp hs)
    ((RefOK_iff_RefOKg s r).mp hr) hp).outcome with h | ⟨s', h, e⟩
  · exact .inl h
  · exact .inr ⟨s', h, (St.WF_iff_WFg b s').mpr e.wf, e.ncols, e.coll_mono⟩

theorem bcast_ok {b : Buf} {single row : Row} (h1 : ∀ c ∈ single, cellOK b c)
    (h2 : ∀ c ∈ row, cellOK b c) : ∀ c ∈ bcast single row, cellOK b c := by
  intro c hc
  obtain ⟨⟨c0, sg⟩, hz, rfl⟩ := List.mem_map.mp hc
  have hsg := h1 sg (List.of_mem_zip hz).2
  have hc0 := h2 c0 (List.of_mem_zip hz).1
  rcases sg with _ | ⟨lo, hi⟩
  · exact hc0
  · show cellOK b (if hi - lo > 0 then some (lo, hi) else c0)
    split
    · exact hsg
    · exact hc0

/-- **resultScan_total** (C10): the entry point `Result.Scan`, on any input and any previous state
    of the right shape, is total, and the rows it returns hold sub-ranges of this input. -/
theorem resultScan_total (b : Buf) (hb : b.WF) (t : Ty) (s : St)
    (hs : s.single.length = s.ncols ∧ (∀ row ∈ s.coll, row.length = s.ncols) ∧ s.n ≤ s.coll.length)
    (hp : t.posOK s.ncols = true) :
    resultScan b t s = .err ∨
    ∃ s', resultScan b t s = .ok s' ∧ (∀ row ∈ s'.rows, ∀ c ∈ row, cellOK b c) ∧ 1 ≤ s'.n := by
  obtain ⟨hs1, hs2, _⟩ := hs
  -- only the live rows (none after the reset) are claimed to hold sub-ranges of this input
  have hs0 : St.WFg false b { s with n := 0, single := s.single.map fun _ => none } := by
    refine ⟨?_, hs2, Nat.zero_le _, ?_, ?_⟩
    · show (s.single.map _).length = s.ncols
      rw [List.length_map]; exact hs1
    · intro c hc
      obtain ⟨_, _, rfl⟩ := List.mem_map.mp hc
      trivial
    · intro i row _ hc
      rcases hc with hc | hc
      · cases hc
      · exact absurd hc (Nat.not_lt_zero _)
  rw [resultScan_eq]
  rcases (scan_good false b hb t 0 (Int.le_refl 0) (by omega) .single _ hs0 trivial hp).outcome with
    hsc | ⟨s1, hsc, h⟩ <;> rw [hsc]
  · exact .inl rfl
  · have hw : (oneRow s1).WFg false b ∧ 1 ≤ (oneRow s1).n := by
      unfold oneRow
      split
      · obtain ⟨g1, _, g3⟩ := getRow_ext h.wf
        exact ⟨g1.wf, by omega⟩
      · exact ⟨h.wf, by omega⟩
    refine .inr ⟨_, rfl, ?_, hw.2⟩
    rw [finish_rows hw.1.n_le]
    intro row hrow
    obtain ⟨row0, hrow0, rfl⟩ := List.mem_map.mp hrow
    obtain ⟨i, hi⟩ := List.getElem?_of_mem hrow0
    rw [List.getElem?_take] at hi
    split at hi
    · next hin => exact bcast_ok hw.1.single_ok (hw.1.rows_ok i row0 hi (.inr hin))
    · cases hi

-- `Ty.rowBound` / `Tys.rowBound` are defined in Shovel/Model/Abi.lean (the oracle evaluates them)

/-- Every successful iteration reads its head at a `pos ≤ len` and moves on by at least 32, so if
    `m` steps of 32 from `pos` pass `len`, at most `m` iterations succeed; each adds at most
    `(if e.isArr then 0 else 1) + g` rows. -/
theorem arrLoop_rows (b : Buf) (e : Ty) (off start : Int) (h0 : 0 ≤ off) (hsel : e.hasSelect = true)
    (g : Nat)
    (ih : ∀ (off' : Int) r s s', 0 ≤ off' → scan b e off' r s = .ok s' → s'.n ≤ s.n + g) :
    ∀ (n m : Nat) (pos : Int) (r : RowRef) (s s' : St), (b.data.length : Int) < pos + 32 * m →
      loopN n pos r s (arrBody b e off start) = .ok s' →
      s'.n ≤ s.n + m * ((if e.isArr then 0 else 1) + g)
  | 0, _, _, _, _, _, _, h => by
    injection h with h; subst h; exact Nat.le_add_right _ _
  | n + 1, m, pos, r, s, s', hm, h => by
    rw [arrLoop_succ] at h
    obtain ⟨c, hc, h⟩ := Res.bind_eq_ok h
    obtain ⟨s1, h1, h⟩ := Res.bind_eq_ok h
    obtain ⟨c1, _, c3, c4⟩ := child_ok hc
    have a1 := ih c.1 _ _ s1 (by omega) h1
    rw [elemSel_n] at a1
    have := Ty.headSize_ge hsel
    cases m with
    | zero => omega
    | succ m =>
      have a2 := arrLoop_rows b e off start h0 hsel g ih n m c.2 _ s1 s' (by omega) h
      rw [Nat.succ_mul]
      omega

-- `L` is `b.data.length / 32`, carried as a variable with its defining equation: the recursion
-- passes it on unchanged and `rowBound` unfolds on it; `scan_rows_bound` puts the value in
mutual
theorem scan_rows (b : Buf) (L : Nat) (hL : L = b.data.length / 32) (t : Ty) (off : Int)
    (h0 : 0 ≤ off) (r : RowRef) (s s' : St) (h : scan b t off r s = .ok s') :
    s'.n ≤ s.n + t.rowBound L := by
  cases t with
  | stat sel =>
    rw [scan_stat] at h
    rw [putSel_n (Res.ite_eq_ok nofun h).2]; omega
  | dyn sel =>
    rw [scan_dyn] at h
    obtain ⟨n, _, h⟩ := Res.bind_eq_ok h
    split at h
    · injection h with h; subst h; omega
    · rw [putSel_n (Res.ite_eq_ok nofun h).2]; omega
  | arr k e =>
    rw [scan_arr] at h
    unfold Ty.rowBound
    by_cases hsel : (!e.hasSelect) = true
    · rw [if_pos hsel] at h; injection h with h; subst h; omega
    · rw [if_neg hsel] at h
      have loop : ∀ (start : Int) n, 0 ≤ start → loopN n start r s (arrBody b e off start) = .ok s' →
          s'.n ≤ s.n + (L + 1) * ((if e.isArr then 0 else 1) + e.rowBound L) := fun start n hstart h =>
        arrLoop_rows b e off start h0 (by simpa using hsel) (e.rowBound L)
          (fun off' r s s' a1 a2 => scan_rows b L hL e off' a1 r s s' a2) n (L + 1) start r s s'
          (by omega) h
      by_cases hk : k = 0
      · rw [if_pos hk] at h
        obtain ⟨n, _, h⟩ := Res.bind_eq_ok h
        exact loop 32 _ (by omega) h
      · rw [if_neg hk] at h; exact loop 0 _ (by omega) h
  | tup fs =>
    rw [scan_tup] at h
    unfold Ty.rowBound
    split at h
    · injection h with h; subst h; omega
    · exact scanTup_rows b L hL fs off h0 0 r s s' h
theorem scanTup_rows (b : Buf) (L : Nat) (hL : L = b.data.length / 32) (fs : Tys) (off : Int)
    (h0 : 0 ≤ off) (pos : Int) (r : RowRef) (s s' : St) (h : scanTup b fs off pos r s = .ok s') :
    s'.n ≤ s.n + fs.rowBound L := by
  cases fs with
  | nil =>
    rw [scanTup_nil] at h
    injection h with h; subst h; omega
  | cons f rest =>
    rw [scanTup_cons] at h
    unfold Tys.rowBound
    obtain ⟨c, hc, h⟩ := Res.bind_eq_ok h
    obtain ⟨s1, h1, h⟩ := Res.bind_eq_ok h
    have a1 := scan_rows b L hL f c.1 (by have := (child_ok hc).1; omega) r s s1 h1
    have a2 := scanTup_rows b L hL rest off h0 c.2 r s1 s' h
    omega
end

/-- **scan_rows_bound** (C10): a successful `scan` adds at most `t.rowBound (len / 32)` rows (calls
    of `GetRow`), for any state and any row reference — no well-formedness needed.  `rowBound L` is
    a polynomial in `L + 1` of degree "array nesting depth" whose coefficients count the array
    fields of tuples: every loop iteration is backed by ≥ 32 input bytes at its own, strictly
    increasing head position, so a loop runs at most `len / 32 + 1` times. -/
theorem scan_rows_bound (b : Buf) (t : Ty) (off : Int) (h0 : 0 ≤ off) (r : RowRef) (s s' : St)
    (h : scan b t off r s = .ok s') : s'.n ≤ s.n + t.rowBound (b.data.length / 32) :=
  scan_rows b _ rfl t off h0 r s s' h

/-- **resultScan_rows_bound** (C10): `max 1` for the fallback row (`oneRow`). -/
theorem resultScan_rows_bound (b : Buf) (t : Ty) (s s' : St) (h : resultScan b t s = .ok s') :
    s'.n ≤ max 1 (t.rowBound (b.data.length / 32)) := by
  rw [resultScan_eq] at h
  obtain ⟨s1, hsc, h⟩ := Res.bind_eq_ok h
  have hb := scan_rows_bound b t 0 (Int.le_refl 0) _ _ s1 hsc
  simp only [Nat.zero_add] at hb
  injection h with h
  subst h
  show (oneRow s1).n ≤ _
  unfold oneRow
  split
  · next hz =>
    have : s1.getRow.1.n = s1.n + 1 := rfl
    rw [this, hz]
    exact Nat.le_max_left _ _
  · exact Nat.le_trans hb (Nat.le_max_right _ _)

/-- un-nested array of leaves: at most `len / 32 + 1` rows -/
theorem rowBound_flat_stat (L k : Nat) (sel : Option Nat) : (Ty.arr k (.stat sel)).rowBound L = L + 1 := by
  simp [Ty.rowBound, Ty.isArr]

theorem rowBound_flat_dyn (L k : Nat) (sel : Option Nat) : (Ty.arr k (.dyn sel)).rowBound L = L + 1 := by
  simp [Ty.rowBound, Ty.isArr]

def smallWord (n : Nat) : List Nat := List.replicate 31 0 ++ [n]

/-- hostile `bytes`: the length word claims 100 bytes, none follow — `err`, hypotheses hold -/
example :
    let b : Buf := ⟨smallWord 100, 64⟩
    let t : Ty := .dyn (some 0)
    b.data.length ≤ b.cap ∧ t.posOK (newResult t).ncols = true ∧
      scan b t 0 .single (newResult t) = .err := by decide +kernel

/-- honest `bytes` of length 3: `ok`, the selected column is the sub-range `[32, 35)` -/
example :
    let b : Buf := ⟨smallWord 3 ++ [1, 2, 3], 64⟩
    let t : Ty := .dyn (some 0)
    b.data.length ≤ b.cap ∧ t.posOK (newResult t).ncols = true ∧
      scan b t 0 .single (newResult t) =
        .ok { single := [some (32, 35)], coll := [], n := 0, ncols := 1 } := by decide +kernel

/-- hostile dynamic array claiming `2^56` elements with no data behind it: `err` (and the spare
    capacity beyond `len` is never touched) -/
example :
    let b : Buf := ⟨List.replicate 24 0 ++ [1] ++ List.replicate 7 0, 4096⟩
    let t : Ty := .arr 0 (.stat (some 0))
    b.data.length ≤ b.cap ∧ t.posOK (newResult t).ncols = true ∧
      scan b t 0 .single (newResult t) = .err ∧ resultScan b t (newResult t) = .err := by
  decide +kernel

/-- a tuple of four arrays whose offsets all alias one 4-element array: 288 bytes yield 16 rows.
    So the number of rows is NOT bounded by `(len / 32 + 1) ^ arrDepth = 10`; the coefficient of
    `rowBound` (here `4 * (len / 32 + 1) = 40`) is needed. -/
example :
    let t : Ty := .tup (.cons (.arr 0 (.stat (some 0))) (.cons (.arr 0 (.stat (some 1)))
      (.cons (.arr 0 (.stat (some 2))) (.cons (.arr 0 (.stat (some 3))) .nil))))
    let d := smallWord 128 ++ smallWord 128 ++ smallWord 128 ++ smallWord 128 ++
      smallWord 4 ++ smallWord 1 ++ smallWord 2 ++ smallWord 3 ++ smallWord 4
    d.length = 288 ∧ t.rowBound (288 / 32) = 40 ∧
      (match resultScan ⟨d, 288⟩ t (newResult t) with | .ok s => s.n | _ => 0) = 16 := by
  decide +kernel

end Shovel.Abi
