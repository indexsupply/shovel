import Shovel.Model.EnvNum
/-
  C06 ("the range as written") — the model of `wos.EnvUint64.UnmarshalJSON` (`Shovel/Model/EnvNum.lean`):
  decimal numerals (with any number of leading zeros) read as their decimal value, everything
  else is an error, values at or above 2^64 are errors, and the three ways a value reaches the
  parser (bare token, quoted token, environment variable) agree.
-/

namespace Shovel.EnvNum

/-- decimal digits of `n`, most significant first, with `fuel` bounding the number of digits: the digits of
    `Nat.toDigits 10` as byte codes (`renderAux_eq`) -/
def renderAux : Nat → Nat → List Nat
  | 0, n => [48 + n % 10]
  | fuel + 1, n => if n < 10 then [48 + n] else renderAux fuel (n / 10) ++ [48 + n % 10]

/-- the decimal digits of `n` as ASCII bytes, most significant first -/
def render (n : Nat) : List Nat := renderAux n n

example : render 0 = [48] := by decide
example : render 7 = [55] := by decide
example : render 10 = [49, 48] := by decide
example : render 1009 = [49, 48, 48, 57] := by decide
example : render 17000000 = [49, 55, 48, 48, 48, 48, 48, 48] := by decide
example : render 18446744073709551615 =
    [49, 56, 52, 52, 54, 55, 52, 52, 48, 55, 51, 55, 48, 57, 53, 53, 49, 54, 49, 53] := by decide

private theorem digitChar_toNat : ∀ d, d < 10 → (Nat.digitChar d).toNat = 48 + d := by decide

theorem renderAux_eq (f n : Nat) (h : n ≤ f) : renderAux f n = (Nat.toDigits 10 n).map Char.toNat := by
  fun_induction renderAux f n with
  | case1 =>
    rw [Nat.le_zero.1 h]
    rfl
  | case2 f n h10 => simp [Nat.toDigits_of_lt_base h10, digitChar_toNat n h10]
  | case3 f n h10 ih =>
    simp [Nat.toDigits_of_base_le (by decide) (Nat.le_of_not_lt h10), ih (by omega),
      digitChar_toNat (n % 10) (by omega)]

/-- **render_eq_repr** (C06): `render` is Lean's own decimal printing -/
theorem render_eq_repr (n : Nat) : render n = (Nat.repr n).toList.map Char.toNat := by
  rw [Nat.toList_repr]
  exact renderAux_eq n n (Nat.le_refl n)

theorem render_eq_if (n : Nat) :
    render n = if n < 10 then [48 + n] else render (n / 10) ++ [48 + n % 10] := by
  cases n with
  | zero => rfl
  | succ m =>
    rw [render, renderAux, renderAux_eq m _ (by omega), render, renderAux_eq _ _ (Nat.le_refl _)]

theorem render_ne_nil (n : Nat) : render n ≠ [] := by
  rw [render_eq_if]
  split <;> simp

theorem render_head_ne_zero (n : Nat) (h : 0 < n) : (render n).head? ≠ some 48 := by
  induction n using Nat.strongRecOn with
  | _ n ih =>
    rw [render_eq_if]
    split
    · simp; omega
    · have := ih (n / 10) (Nat.div_lt_self h (by decide)) (Nat.div_pos (Nat.le_of_not_lt ‹_›) (by decide))
      cases hr : render (n / 10) with
      | nil => exact absurd hr (render_ne_nil _)
      | cons a as => rw [hr] at this; simpa using this

theorem parseDec_append (xs ys : List Nat) (acc : Nat) :
    parseDec (xs ++ ys) acc = (parseDec xs acc).bind (parseDec ys) := by
  induction xs generalizing acc with
  | nil => simp [parseDec]
  | cons b bs ih =>
    simp only [List.cons_append, parseDec]
    split
    · rfl
    · exact ih _

theorem digit?_digit (d : Nat) (h : d < 10) : digit? (48 + d) = some d := by
  unfold digit?
  rw [if_pos (by omega)]
  congr 1
  omega

theorem parseDec_zeros (k : Nat) : parseDec (List.replicate k 48) 0 = some 0 := by
  induction k with
  | zero => rfl
  | succ k ih => simpa [List.replicate_succ, parseDec, digit?_digit 0] using ih

theorem parseDec_render (n acc : Nat) :
    parseDec (render n) acc = some (acc * 10 ^ (render n).length + n) := by
  induction n using Nat.strongRecOn generalizing acc with
  | _ n ih =>
    rw [render_eq_if]
    split
    · simp [parseDec, digit?_digit n ‹_›]
    · rw [parseDec_append, ih (n / 10) (by omega)]
      simp only [Option.bind_some, parseDec, digit?_digit (n % 10) (by omega), List.length_append,
        List.length_cons, List.length_nil, Nat.pow_succ, Nat.zero_add]
      congr 1
      rw [Nat.add_mul, Nat.mul_assoc]
      omega

theorem parseDec_zeros_render (n k : Nat) :
    parseDec (List.replicate k 48 ++ render n) 0 = some n := by
  rw [parseDec_append, parseDec_zeros, Option.bind_some, parseDec_render]
  simp

theorem parseDec_digits (s : List Nat) (acc n : Nat) (h : parseDec s acc = some n) :
    ∀ b ∈ s, 48 ≤ b ∧ b ≤ 57 := by
  fun_induction parseDec s acc with
  | case1 => simp
  | case2 => cases h
  | case3 b bs acc d hd ih =>
    refine List.forall_mem_cons.2 ⟨?_, ih h⟩
    unfold digit? at hd
    split at hd
    · assumption
    · cases hd

theorem parseUint64_eq_some {s : List Nat} {n : Nat} :
    parseUint64 s = some n ↔ s ≠ [] ∧ parseDec s 0 = some n ∧ n < 2 ^ 64 := by
  cases s with
  | nil => simp [parseUint64]
  | cons b bs =>
    simp only [parseUint64, ne_eq, reduceCtorEq, not_false_eq_true, true_and]
    cases parseDec (b :: bs) 0 with
    | none => simp
    | some m =>
      by_cases hm : m < 2 ^ 64
      · simp only [hm, if_true, Option.some.injEq]
        exact ⟨fun h => ⟨h, h ▸ hm⟩, fun h => h.1⟩
      · simp only [hm, if_false, Option.some.injEq, reduceCtorEq, false_iff]
        exact fun h => hm (h.1 ▸ h.2)

/-- **parseUint64_render** (C06): a decimal numeral with any number of leading zeros reads as its decimal
    value -/
theorem parseUint64_render (n : Nat) (h : n < 2 ^ 64) (k : Nat) :
    parseUint64 (List.replicate k 48 ++ render n) = some n :=
  parseUint64_eq_some.2 ⟨by simp [render_ne_nil], parseDec_zeros_render n k, h⟩

theorem parseUint64_lt (s : List Nat) (n : Nat) (h : parseUint64 s = some n) : n < 2 ^ 64 :=
  (parseUint64_eq_some.1 h).2.2

theorem parseUint64_digits (s : List Nat) (n : Nat) (h : parseUint64 s = some n) :
    s ≠ [] ∧ ∀ b ∈ s, 48 ≤ b ∧ b ≤ 57 :=
  have ⟨hne, hp, _⟩ := parseUint64_eq_some.1 h
  ⟨hne, parseDec_digits s 0 n hp⟩

theorem parseUint64_overflow (n : Nat) (h : 2 ^ 64 ≤ n) (k : Nat) :
    parseUint64 (List.replicate k 48 ++ render n) = none := by
  cases hp : parseUint64 (List.replicate k 48 ++ render n) with
  | none => rfl
  | some m =>
    obtain ⟨_, hm, hlt⟩ := parseUint64_eq_some.1 hp
    rw [parseDec_zeros_render] at hm
    cases hm
    omega

theorem unquote_of_head_ne {t : List Nat} (h : t.head? ≠ some 34) : unquote t = t :=
  if_neg fun hc => h hc.2.1

theorem unquote_quoted (t : List Nat) : unquote (34 :: t ++ [34]) = t := by
  unfold unquote
  rw [if_pos ⟨by simp, by simp, by rw [List.getLast?_append]; simp⟩]
  simp

theorem envUint64_literal (env d : List Nat) (hd : (unquote d).head? ≠ some 36) :
    envUint64 env d = match parseUint64 (unquote d) with
      | some n => .ok n
      | none => .err := by
  unfold envUint64
  dsimp only
  -- the outcome of the `$` test, then the test itself: a `$` in front contradicts `hd`
  split <;> rename_i heq <;> split at heq
  · simp_all
  · cases heq
  · simp_all
  · cases heq; rfl

/-- what `parseUint64` accepts begins with a digit: it is neither quoted nor a variable -/
theorem head_of_parse {t : List Nat} {n : Nat} (h : parseUint64 t = some n) :
    t.head? ≠ some 34 ∧ t.head? ≠ some 36 := by
  obtain ⟨hne, hd⟩ := parseUint64_digits t n h
  cases t with
  | nil => exact absurd rfl hne
  | cons b bs =>
    have := hd b (by simp)
    simp; omega

theorem envUint64_of_parse {env d t : List Nat} {n : Nat} (hu : unquote d = t)
    (h : parseUint64 t = some n) : envUint64 env d = .ok n := by
  rw [envUint64_literal env d (hu.symm ▸ (head_of_parse h).2), hu, h]

theorem envUint64_env_of_parse {name t : List Nat} {n : Nat} (h : parseUint64 t = some n) :
    envUint64 t (34 :: 36 :: name ++ [34]) = .ok n := by
  obtain ⟨hne, _⟩ := parseUint64_digits t n h
  unfold envUint64
  rw [show (34 :: 36 :: name ++ [34]) = 34 :: (36 :: name) ++ [34] by simp, unquote_quoted]
  simp [hne, h]

theorem envUint64_plain (env : List Nat) (n : Nat) (h : n < 2 ^ 64) (k : Nat) :
    envUint64 env (List.replicate k 48 ++ render n) = .ok n :=
  have hp := parseUint64_render n h k
  envUint64_of_parse (unquote_of_head_ne (head_of_parse hp).1) hp

theorem envUint64_quoted (env : List Nat) (n : Nat) (h : n < 2 ^ 64) (k : Nat) :
    envUint64 env (34 :: (List.replicate k 48 ++ render n) ++ [34]) = .ok n :=
  envUint64_of_parse (unquote_quoted _) (parseUint64_render n h k)

/-- **envUint64_env** (C06): the value comes from the environment variable; no side condition on `name` -/
theorem envUint64_env (name : List Nat) (n : Nat) (h : n < 2 ^ 64) (k : Nat) :
    envUint64 (List.replicate k 48 ++ render n) (34 :: 36 :: name ++ [34]) = .ok n :=
  envUint64_env_of_parse (parseUint64_render n h k)

example : envUint64 [] [34, 48, 49, 55, 34] = .ok 17 := by decide
example : envUint64 [] [48, 49, 55] = .ok 17 := by decide
example : envUint64 [] [48, 120, 49, 48] = .err := by decide            -- 0x10
example : envUint64 [] [49, 95, 48, 48, 48] = .err := by decide         -- 1_000
example : envUint64 [] [43, 53] = .err := by decide                     -- +5
example : envUint64 [] [32, 53] = .err := by decide                     -- " 5"
example : envUint64 [] [] = .err := by decide                           -- ""
example : envUint64 [] [34, 34] = .err := by decide                     -- "\"\""
example : envUint64 [] [34, 36, 88, 34] = .exit := by decide
example : envUint64 [48, 49, 48] [34, 36, 88, 34] = .ok 10 := by decide -- "$X", X=010: ten, not eight
example : parseUint64 (render (2 ^ 64)) = none := by decide
example : parseUint64 (render (2 ^ 64 - 1)) = some (2 ^ 64 - 1) := by decide

end Shovel.EnvNum

#print axioms Shovel.EnvNum.render_eq_repr
#print axioms Shovel.EnvNum.render_head_ne_zero
#print axioms Shovel.EnvNum.parseUint64_render
#print axioms Shovel.EnvNum.parseUint64_lt
#print axioms Shovel.EnvNum.parseUint64_digits
#print axioms Shovel.EnvNum.parseUint64_overflow
#print axioms Shovel.EnvNum.envUint64_plain
#print axioms Shovel.EnvNum.envUint64_quoted
#print axioms Shovel.EnvNum.envUint64_env
