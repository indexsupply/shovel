import Shovel.Props.C18
/-
  C20 — tie of the restart protocol's two atomicity assumptions to the source (regenerated on every
  run from shovel/task.go by harness/cmd/extract):
   • `Manager.Restart` serves restart requests ONE AT A TIME: its first two operations are an
     unconditional `tm.restartMut.Lock()` and the deferred unlock (a `TryLock` that lets an
     overlapping request return without reloading, or a lock taken only on some branch, is not this
     shape), and it starts the new generation's `Run`;
   • `Manager.Run` holds `tm.running` from its first statement to its return, and every write of the
     task list and the generation channel inside it happens with that lock held.
  `Manager.one_generation`, `restart_complete` and `no_runner_at_lock` (Props/C20) are proved
  about a protocol with exactly these two critical sections. `restart_waits_for_run`: a `Restart`
  returns only with the report of the `Run` it started.
-/
namespace Shovel.Manager
open Shovel.Gen.Locks Shovel.Race

theorem restart_serialized :
    ((match events.find? (·.1 == "shovel.Manager.Restart") with
      | some e => e.2.take 2 == [.lock "tm.restartMut", .deferUnlock "tm.restartMut"] && e.2.contains .goStart
      | none => false) &&
     (match events.find? (·.1 == "shovel.Manager.Run") with
      | some e => e.2.take 2 == [.lock "tm.running", .deferUnlock "tm.running"]
      | none => false) &&
     guarded "shovel.Manager.Run" ["tm.tasks", "tm.restart"] "tm.running") = true := by
  -- that `Run` writes under `tm.running` is the first half of `discipline_manager`
  rw [(Bool.and_eq_true_iff.mp discipline_manager).1]
  decide +kernel

def evsOf (fn : String) : List Ev := match events.find? (·.1 == fn) with | some e => e.2 | none => []

/-- the events of a list that lie outside every `select` statement -/
def outsideSelect : List Ev → Nat → List Ev
  | [], _ => []
  | .selectStart :: r, d => outsideSelect r (d + 1)
  | .selectEnd :: r, d => outsideSelect r (d - 1)
  | e :: r, d => if d = 0 then e :: outsideSelect r d else outsideSelect r d

/-- **restart_waits_for_run** (C20): in the lexical skeleton `Restart`'s last operation is its one receive from
    the report channel `ec`, and it lies outside every `select` (an UNCONDITIONAL receive, not one alternative
    next to a timer or a default); `Run` has exactly one `send` on `ec` and exactly one `close` of it, and the
    `close` comes after the write of the generation channel `tm.restart`.
    (`restart_complete` / `no_runner_at_ack` are proved about a protocol in which the restart's
    acknowledgement IS the new generation's report.) -/
theorem restart_waits_for_run :
    ((evsOf "shovel.Manager.Restart").getLast? == some (.recv "ec") &&
     (outsideSelect (evsOf "shovel.Manager.Restart") 0).getLast? == some (.recv "ec") &&
     ((evsOf "shovel.Manager.Restart").filter (· == .recv "ec")).length == 1 &&
     ((evsOf "shovel.Manager.Run").filter (· == .send "ec")).length == 1 &&
     ((evsOf "shovel.Manager.Run").filter (· == .closeCh "ec")).length == 1 &&
     (((evsOf "shovel.Manager.Run").dropWhile (· != .write "tm.restart")).contains (.closeCh "ec"))) = true := by
  decide +kernel

end Shovel.Manager
