import Shovel.Proofs.Rpc
/-
  C07: a block request (model `Shovel.Rpc.get` of jrpc2/client.go `Client.Get`) either fails or
  returns exactly the requested consecutive block numbers, hash-linked where hashes are supplied;
  every receipt, log and trace of an accepted reply names a block number that is in the requested
  range (receipts and traces: the number requested at their place), and a block hash it names is
  the hash of the returned block of that number.  Where an item lands inside its block (`txs`) is
  not the subject of any theorem here.

  `setHash` as it stands in /repo: an empty hash is ignored, a held hash is never erased or
  replaced.
-/
namespace Shovel.Rpc

/-- **get_numbers** (C07): a successful block request returns exactly the requested
    consecutive block numbers, for every plan and every set of responses (honest or corrupted). -/
theorem get_numbers (p : Plan) (start limit : Nat) (xs : List Exch) (bs : List Block)
    (h : get p start limit xs = some bs) : numbersOK start limit bs := by
  obtain ⟨_, _, _, _, ⟨hnum, _⟩, ⟨r1, _⟩, r2, _⟩ := get_spec h
  unfold numbersOK
  rw [Rel.map_eq (·.num) (fun _ _ hk => hk.1) (Rel.keeps_trans r1 r2), hnum, List.range'_eq_map_range]

/-- common form of `get_parents`, `get_linked`, `get_headers_kept`, `get_attach_sound` -/
theorem get_headers {p : Plan} {start limit : Nat} {xs : List Exch} {bs : List Block}
    (hp : p.blocks = true ∨ p.headers = true) (h : get p start limit xs = some bs) :
    ∃ es rest, xs = .headers es :: rest ∧ 0 < limit ∧ bs.length = limit ∧
      ∀ i b, bs[i]? = some b → ∃ b0, es[i]? = some (elOf b0) ∧ keeps b0 b ∧ b.num = start + i ∧
        ∀ b', bs[i + 1]? = some b' → b'.parent = b0.hash := by
  obtain ⟨bs0, xs1, _, _, ⟨hnum, s1⟩, ⟨r1, _⟩, r2, _⟩ := get_spec h
  rw [if_pos (by simpa using hp)] at s1
  obtain ⟨es, hxs, hv⟩ := s1
  have hrel := Rel.keeps_trans r1 r2
  refine ⟨es, xs1, hxs, (validate_spec hv).1, ?_, fun i b hb => ?_⟩
  · rw [hrel.length_eq]; simpa using congrArg List.length hnum
  · obtain ⟨b0, hb0, hk⟩ := hrel.get_right hb
    obtain ⟨hel, hlink⟩ := (validate_spec hv).2.2.2.2 i b0 hb0
    refine ⟨b0, hel, hk, hk.1.trans (num_of_map_range' hnum hb0).1, fun b' hb' => ?_⟩
    obtain ⟨b0', hb0', hk'⟩ := hrel.get_right hb'
    rw [hk'.2.1]
    exact hlink b0' hb0'

/-- **get_parents** (C07): every returned block but the first has as parent
    the hash of the preceding header *as delivered in the validated batch*. -/
theorem get_parents (p : Plan) (start limit : Nat) (xs : List Exch) (bs : List Block)
    (hp : p.blocks = true ∨ p.headers = true)
    (h : get p start limit xs = some bs) :
    ∃ es rest, xs = .headers es :: rest ∧
      ∀ i b, bs[i + 1]? = some b → ∃ hd txs, es[i]? = some (.val (hd, txs)) ∧ b.parent = hd.hash := by
  obtain ⟨es, rest, hxs, _, _, hpt⟩ := get_headers hp h
  refine ⟨es, rest, hxs, fun i b hb => ?_⟩
  have hi : i < bs.length := by
    have := (List.getElem?_eq_some_iff.1 hb).1
    omega
  obtain ⟨b0, hel, _, _, hlink⟩ := hpt i bs[i] (List.getElem?_eq_getElem hi)
  exact ⟨_, _, hel, hlink b hb⟩

/-- **get_linked** (C07): when headers or blocks were fetched and every header of the batch
    carries its hash, the returned blocks are hash-linked — whatever the logs, receipts and
    traces replies were.  (Without the hypothesis on the headers: counterexample below.) -/
theorem get_linked (p : Plan) (start limit : Nat) (xs : List Exch) (bs : List Block)
    (hp : p.blocks = true ∨ p.headers = true)
    (hh : ∀ x ∈ xs, x.hdrHashed)
    (h : get p start limit xs = some bs) :
    ∀ i a b, bs[i]? = some a → bs[i + 1]? = some b → b.parent = a.hash := by
  obtain ⟨es, rest, hxs, _, _, hpt⟩ := get_headers hp h
  intro i a b hia hib
  obtain ⟨a0, hel, hk, _, hlink⟩ := hpt i a hia
  have hne : a0.hash ≠ "" := hh (.headers es) (hxs ▸ List.mem_cons_self) _ _ (List.mem_of_getElem? hel)
  rw [hlink b hib, hk.2.2 hne]

/-- `get_linked` without `hdrHashed`, for the blocks whose parent is not empty -/
theorem get_linked_parent (p : Plan) (start limit : Nat) (xs : List Exch) (bs : List Block)
    (hp : p.blocks = true ∨ p.headers = true)
    (h : get p start limit xs = some bs) :
    ∀ i a b, bs[i]? = some a → bs[i + 1]? = some b → b.parent ≠ "" → b.parent = a.hash := by
  obtain ⟨es, rest, hxs, _, _, hpt⟩ := get_headers hp h
  intro i a b hia hib hpar
  obtain ⟨a0, _, hk, _, hlink⟩ := hpt i a hia
  rw [hlink b hib] at hpar ⊢
  exact (hk.2.2 hpar).symm

theorem validate_reject (start limit : Nat) (es : List (El (Hdr × List Nat)))
    (hbad : es.length < limit ∨ (∃ e ∈ es, match e with | .val _ => False | _ => True) ∨
      (∃ i h txs, i < limit ∧ es[i]? = some (.val (h, txs)) ∧ h.num ≠ start + i) ∨
      (∃ i a ta b tb, i + 1 < limit ∧ es[i]? = some (.val (a, ta)) ∧ es[i + 1]? = some (.val (b, tb)) ∧ b.parent ≠ a.hash)) :
    validate start limit es = none := by
  cases hv : validate start limit es with
  | none => rfl
  | some bs =>
    exfalso
    obtain ⟨_, hlen, hval, hnum, hpt⟩ := validate_spec hv
    have hl : bs.length = limit := by simpa using congrArg List.length hnum
    have hget : ∀ i, i < limit → ∀ x, es[i]? = some x → ∃ b, bs[i]? = some b ∧ x = elOf b := by
      intro i hi x hx
      -- the bound as a hypothesis: left to `bs[i]`'s own tactic it is searched for in the whole context
      have hi' : i < bs.length := hl ▸ hi
      have hb : bs[i]? = some bs[i] := List.getElem?_eq_getElem hi'
      rw [(hpt i _ hb).1] at hx
      exact ⟨_, hb, (Option.some.inj hx).symm⟩
    rcases hbad with h | ⟨e, he, hbad⟩ | ⟨i, h, txs, hi, hx, hne⟩ | ⟨i, a, ta, b, tb, hi, hxa, hxb, hne⟩
    · omega
    · obtain ⟨a, rfl⟩ := hval e he
      exact hbad
    · obtain ⟨b, hb, hel⟩ := hget i hi _ hx
      cases hel
      exact hne (num_of_map_range' hnum hb).1
    · obtain ⟨x, hx, hela⟩ := hget i (by omega) _ hxa
      obtain ⟨y, hy, helb⟩ := hget (i + 1) hi _ hxb
      cases hela
      cases helb
      exact hne ((hpt i x hx).2 y hy)

/-- **headers_reject** (C07): an error member, a missing/null result, a short batch, a wrong
    or out-of-place block number, or a broken parent link in the header/block batch always yields
    an error. -/
theorem headers_reject (p : Plan) (start limit : Nat) (es : List (El (Hdr × List Nat))) (rest : List Exch)
    (hp : p.blocks = true ∨ p.headers = true)
    (hbad : es.length < limit ∨ (∃ e ∈ es, match e with | .val _ => False | _ => True) ∨
      (∃ i h txs, i < limit ∧ es[i]? = some (.val (h, txs)) ∧ h.num ≠ start + i) ∨
      (∃ i a ta b tb, i + 1 < limit ∧ es[i]? = some (.val (a, ta)) ∧ es[i + 1]? = some (.val (b, tb)) ∧ b.parent ≠ a.hash)) :
    get p start limit (.headers es :: rest) = none := by
  cases hg : get p start limit (.headers es :: rest) with
  | none => rfl
  | some bs =>
    obtain ⟨_, _, _, _, ⟨_, s1⟩, _⟩ := get_spec hg
    rw [if_pos (by simpa using hp)] at s1
    obtain ⟨es', hxs, hv⟩ := s1
    cases hxs
    rw [validate_reject start limit es hbad] at hv
    cases hv

/-- **transport_reject_any** (C07): a failed transport (non-2xx, undecodable, truncated, dropped)
    where the first exchange of the request was expected always yields an error -/
theorem transport_reject_any (p : Plan) (start limit : Nat) (rest : List Exch)
    (hp : p.blocks = true ∨ p.headers = true ∨ p.receipts = true ∨ p.logs = true ∨ p.traces = true)
    (hl : 0 < limit) :
    get p start limit (.fail :: rest) = none := by
  cases hg : get p start limit (.fail :: rest) with
  | none => rfl
  | some bs =>
    exfalso
    obtain ⟨_, xs1, _, xs2, ⟨_, s1⟩, ⟨_, s2⟩, _, s3⟩ := get_spec hg
    -- no stage can have consumed `.fail`, so it reaches the traces loop, which refuses it
    split at s1
    · obtain ⟨_, hxs, _⟩ := s1; cases hxs
    obtain ⟨rfl, _⟩ := s1
    by_cases hr : p.receipts = true
    · rw [if_pos hr] at s2
      obtain ⟨_, hxs, _⟩ := s2; cases hxs
    by_cases hl' : p.logs = true
    · rw [if_neg hr, if_pos hl'] at s2
      obtain ⟨_, _, _, hxs, _⟩ := s2; cases hxs
    rw [if_neg hr, if_neg hl'] at s2
    obtain ⟨rfl, _⟩ := s2
    split at s3
    · obtain ⟨k, rfl⟩ := Nat.exists_eq_add_one_of_ne_zero (Nat.ne_of_gt hl)
      simp [get.go] at s3
    · simp_all

/-- **transport_reject** (C07): `transport_reject_any` for the plans that fetch something before the
    traces -/
theorem transport_reject (p : Plan) (start limit : Nat) (rest : List Exch)
    (hp : p.blocks = true ∨ p.headers = true ∨ p.receipts = true ∨ p.logs = true) (hl : 0 < limit) :
    get p start limit (.fail :: rest) = none :=
  transport_reject_any p start limit rest (by rcases hp with h | h | h | h <;> simp [h]) hl

/-- **setHash_keeps** (C07): a held hash is never replaced, whatever the argument -/
theorem setHash_keeps (b b' : Block) (h : String) (hok : setHash b h = some b') (hne : b.hash ≠ "") :
    b'.hash = b.hash ∧ (h ≠ "" → h = b.hash) :=
  ⟨(setHash_keep hok).2.2 hne, fun hh => setHash_agree hok hne hh⟩

theorem setHash_spec (b b' : Block) (h : String) (hok : setHash b h = some b') :
    b'.num = b.num ∧ b'.parent = b.parent ∧ b'.txs = b.txs ∧ (h ≠ "" → b'.hash = h) ∧ (h = "" → b' = b) := by
  obtain ⟨h1, h2, h3, _, h5, h6⟩ := setHash_some hok
  exact ⟨h1, h2, h3, h5, h6⟩

/-- **setHash_rejects** (C07): a non-empty hash different from the one held is an error -/
theorem setHash_rejects (b : Block) (h : String) (hne : b.hash ≠ "") (hh : h ≠ "") (hd : h ≠ b.hash) :
    setHash b h = none := by
  cases hs : setHash b h with
  | none => rfl
  | some b' => exact absurd (setHash_agree hs hne hh) hd

theorem receipts_attach_sound (start limit : Nat) (es : List (El (List Rcpt))) (bs bs' : List Block)
    (hok : applyReceipts start limit es bs = some bs') :
    limit ≤ es.length ∧ (∀ e ∈ es, match e with | .val _ => True | _ => False) ∧
    (∀ i rs r, es[i]? = some (.val rs) → r ∈ rs → r.bnum = start + i) := by
  obtain ⟨h1, _, h3, h4⟩ := applyReceipts_spec hok
  refine ⟨h1, fun e he => ?_, fun i rs r hi hr => (h4 i rs r hi hr).1⟩
  obtain ⟨rs, rfl⟩ := h3 e he
  trivial

theorem traces_attach_sound (want : Nat) (e : El (List Item)) (bs bs' : List Block)
    (hok : applyTraces want e bs = some bs') :
    ∃ items, e = .val items ∧ ∀ i ∈ items, i.bnum = want := by
  obtain ⟨_, items, he, h1⟩ := applyTraces_spec hok
  exact ⟨items, he, fun i hi => (h1 i hi).1⟩

/-- **logs_attach_sound** (C07): a successful logs step had exactly two batch elements, both
    values; every log names a block of the requested range; and a log that names a block hash
    names the hash held for its block. -/
theorem logs_attach_sound (start limit : Nat) (h : El Hdr) (l : El (List Item)) (n : Nat)
    (bs bs' : List Block) (hok : applyLogs start limit h l n bs = some bs') :
    n = 2 ∧ ∃ hd items, h = .val hd ∧ l = .val items ∧
      (∀ i ∈ items, start ≤ i.bnum ∧ i.bnum < start + limit) ∧
      (∀ i ∈ items, ∀ b ∈ bs, b.num = i.bnum → b.hash ≠ "" → i.bhash ≠ "" →
        (∀ b2 ∈ bs, b2.num = b.num → b2 = b) → i.bhash = b.hash) := by
  obtain ⟨hn, hd, items, rfl, rfl, hrel, _, hit⟩ := applyLogs_spec hok
  exact ⟨hn, hd, items, rfl, rfl, fun i hi => ⟨(hit i hi).1, (hit i hi).2.1⟩,
    fun i hi b _ hnum hne hine hu => ((hit i hi).2.2 hine).agree hrel hnum hne hu⟩

/-- **logs_header_sound** (C07): the header that accompanies the logs names the hash held for the
    last block -/
theorem logs_header_sound (start limit : Nat) (h : El Hdr) (l : El (List Item)) (n : Nat)
    (bs bs' : List Block) (hok : applyLogs start limit h l n bs = some bs') :
    ∃ hd, h = .val hd ∧ ∀ b ∈ bs, b.num = start + limit - 1 → b.hash ≠ "" → hd.hash ≠ "" →
      (∀ b2 ∈ bs, b2.num = b.num → b2 = b) → hd.hash = b.hash := by
  obtain ⟨_, hd, items, rfl, rfl, hrel, hH, _⟩ := applyLogs_spec hok
  exact ⟨hd, rfl, fun b hb hn hne hhd hu => (hH hhd ⟨b, hb, hn⟩).agree hrel hn hne hu⟩

/-- for receipts what the last conjunct of `logs_attach_sound` is for logs; `traces_hash_sound`
    likewise -/
theorem receipts_hash_sound (start limit : Nat) (es : List (El (List Rcpt))) (bs bs' : List Block)
    (hok : applyReceipts start limit es bs = some bs') :
    ∀ (j : Nat) (rs : List Rcpt) (r : Rcpt), es[j]? = some (.val rs) → r ∈ rs → ∀ b ∈ bs, b.num = r.bnum →
      b.hash ≠ "" → r.bhash ≠ "" → (∀ b2 ∈ bs, b2.num = b.num → b2 = b) → r.bhash = b.hash := by
  intro j rs r hj hr b _ hn hne hrne hu
  obtain ⟨_, hrel, _, h4⟩ := applyReceipts_spec hok
  exact ((h4 j rs r hj hr).2 hrne).agree hrel hn hne hu

theorem traces_hash_sound (want : Nat) (e : El (List Item)) (bs bs' : List Block)
    (hok : applyTraces want e bs = some bs') :
    ∃ items, e = .val items ∧ ∀ i ∈ items, ∀ b ∈ bs, b.num = i.bnum →
      b.hash ≠ "" → i.bhash ≠ "" → (∀ b2 ∈ bs, b2.num = b.num → b2 = b) → i.bhash = b.hash := by
  obtain ⟨hrel, items, he, h1⟩ := applyTraces_spec hok
  exact ⟨items, he, fun i hi b _ hn hne hine hu => ((h1 i hi).2 hine).agree hrel hn hne hu⟩

theorem keeps_of_rel {bs bs' : List Block} (h : Rel keeps bs bs') :
    bs'.length = bs.length ∧ ∀ (i : Nat) (a b : Block), bs[i]? = some a → bs'[i]? = some b → keeps a b := by
  refine ⟨h.length_eq, fun i a b ha hb => ?_⟩
  obtain ⟨b', hb', hk⟩ := h.get_left ha
  rw [hb] at hb'; cases hb'
  exact hk

theorem logs_keep (start limit : Nat) (h : El Hdr) (l : El (List Item)) (n : Nat) (bs bs' : List Block)
    (hok : applyLogs start limit h l n bs = some bs') :
    bs'.length = bs.length ∧ ∀ (i : Nat) (a b : Block), bs[i]? = some a → bs'[i]? = some b → keeps a b := by
  obtain ⟨_, _, _, _, _, hrel, _⟩ := applyLogs_spec hok
  exact keeps_of_rel hrel

theorem receipts_keep (start limit : Nat) (es : List (El (List Rcpt))) (bs bs' : List Block)
    (hok : applyReceipts start limit es bs = some bs') :
    bs'.length = bs.length ∧ ∀ (i : Nat) (a b : Block), bs[i]? = some a → bs'[i]? = some b → keeps a b :=
  keeps_of_rel (applyReceipts_spec hok).2.1

theorem traces_keep (want : Nat) (e : El (List Item)) (bs bs' : List Block)
    (hok : applyTraces want e bs = some bs') :
    bs'.length = bs.length ∧ ∀ (i : Nat) (a b : Block), bs[i]? = some a → bs'[i]? = some b → keeps a b :=
  keeps_of_rel (applyTraces_spec hok).1

/-- **get_headers_kept** (C07): with `blocks`/`headers` the returned blocks are the validated
    batch, place by place: same number and parent, and the header's hash if it had one -/
theorem get_headers_kept (p : Plan) (start limit : Nat) (xs : List Exch) (bs : List Block)
    (hp : p.blocks = true ∨ p.headers = true)
    (h : get p start limit xs = some bs) :
    ∃ es rest, xs = .headers es :: rest ∧ bs.length = limit ∧
      ∀ (i : Nat) (b : Block), bs[i]? = some b → ∃ hd txs, es[i]? = some (.val (hd, txs)) ∧ b.num = hd.num ∧
        b.parent = hd.parent ∧ (hd.hash ≠ "" → b.hash = hd.hash) := by
  obtain ⟨es, rest, hxs, _, hlen, hpt⟩ := get_headers hp h
  refine ⟨es, rest, hxs, hlen, fun i b hb => ?_⟩
  obtain ⟨b0, hel, hk, _⟩ := hpt i b hb
  exact ⟨_, _, hel, hk.1, hk.2.1, hk.2.2⟩

/-- **get_bare** (C07): with no step requested the request returns the bare numbered blocks -/
theorem get_bare (p : Plan) (start limit : Nat) (xs : List Exch)
    (h1 : p.blocks = false) (h2 : p.headers = false) (h3 : p.receipts = false) (h4 : p.logs = false)
    (h5 : p.traces = false) :
    get p start limit xs = some ((List.range limit).map fun i => ({ num := start + i } : Block)) := by
  simp [get, h1, h2, h3, h4, h5]

/-- **get_attach_final** (C07): for every plan and without hypothesis, a successful request has
    consumed, in order, the header batch (if `blocks`/`headers`), then the receipts batch or the
    logs reply, then one traces reply per block; every log names a block of the requested range,
    every receipt and trace the block requested at its place (`start + j`; for a receipt `j` is its
    place in the batch, which the statement does not bound by `limit`: `get_attach_sound` assumes
    that) — and a block hash named by a receipt, a log, a trace or the header accompanying the logs
    **is the hash of the returned block of that number**. -/
theorem get_attach_final (p : Plan) (start limit : Nat) (xs : List Exch) (bs : List Block)
    (h : get p start limit xs = some bs) :
    ∃ xs1, (p.blocks = true ∨ p.headers = true → ∃ es, xs = .headers es :: xs1) ∧
      (p.blocks = false → p.headers = false → xs1 = xs) ∧
      (p.receipts = true → ∃ res xs2, xs1 = .receipts res :: xs2 ∧
        ∀ (j : Nat) (rs : List Rcpt) (r : Rcpt), res[j]? = some (.val rs) → r ∈ rs →
          r.bnum = start + j ∧ (r.bhash ≠ "" → ∀ b ∈ bs, b.num = r.bnum → b.hash = r.bhash)) ∧
      (p.receipts = false → p.logs = true → ∃ hd items n xs2, xs1 = .logs (.val hd) (.val items) n :: xs2 ∧
        (0 < limit → hd.hash ≠ "" → ∀ b ∈ bs, b.num = start + limit - 1 → b.hash = hd.hash) ∧
        ∀ i ∈ items, start ≤ i.bnum ∧ i.bnum < start + limit ∧
          (i.bhash ≠ "" → ∀ b ∈ bs, b.num = i.bnum → b.hash = i.bhash)) ∧
      (p.traces = true → ∀ j, j < limit →
        ∃ items, (xs1.drop (if p.receipts || p.logs then 1 else 0))[j]? = some (.traces (.val items)) ∧
          ∀ i ∈ items, i.bnum = start + j ∧ (i.bhash ≠ "" → ∀ b ∈ bs, b.num = i.bnum → b.hash = i.bhash)) := by
  obtain ⟨bs0, xs1, bs1, xs2, ⟨hnum0, s1⟩, ⟨r1, s2⟩, r2, s3⟩ := get_spec h
  have hnum : bs.map (·.num) = List.range' start limit := by
    rw [Rel.map_eq (·.num) (fun _ _ hk => hk.1) (Rel.keeps_trans r1 r2), hnum0]
  -- a hash the list holds after the second stage is the hash of the returned block of that number
  have fin : ∀ {N : Nat} {H : String}, H ≠ "" → Has N H bs1 → ∀ b ∈ bs, b.num = N → b.hash = H :=
    fun hne hH => (hH.mono hne r2).unique hnum
  refine ⟨xs1, fun hp => ?_, fun hb hh => ?_, fun hr => ?_, fun hr hl => ?_, fun ht j hj => ?_⟩
  · rw [if_pos (by simpa using hp)] at s1
    obtain ⟨es, hxs, _⟩ := s1
    exact ⟨es, hxs⟩
  · rw [if_neg (by simp [hb, hh])] at s1
    exact s1.1
  · rw [if_pos hr] at s2
    obtain ⟨res, hx1, hok⟩ := s2
    obtain ⟨_, _, _, h4⟩ := applyReceipts_spec hok
    exact ⟨res, xs2, hx1, fun j rs r hrj hrm =>
      ⟨(h4 j rs r hrj hrm).1, fun hne => fin hne ((h4 j rs r hrj hrm).2 hne)⟩⟩
  · rw [if_neg (by simp [hr]), if_pos hl] at s2
    obtain ⟨hd, l, n, hx1, hok⟩ := s2
    obtain ⟨_, hd', items, rfl, rfl, _, hH, hit⟩ := applyLogs_spec hok
    refine ⟨hd', items, n, xs2, hx1, fun hlim hhd => ?_, fun i hi =>
      ⟨(hit i hi).1, (hit i hi).2.1, fun hne => fin hne ((hit i hi).2.2 hne)⟩⟩
    exact fin hhd (hH hhd (exists_of_range' hnum0 (Nat.le_sub_one_of_lt (Nat.lt_add_of_pos_right hlim))
      (Nat.sub_lt (Nat.add_pos_right start hlim) Nat.one_pos)))
  · have hx2 : xs2 = xs1.drop (if p.receipts || p.logs then 1 else 0) := by
      by_cases hr : p.receipts = true
      · rw [if_pos hr] at s2
        obtain ⟨_, hx1, _⟩ := s2
        simp [hr, hx1]
      by_cases hl : p.logs = true
      · rw [if_neg hr, if_pos hl] at s2
        obtain ⟨_, _, _, hx1, _⟩ := s2
        simp [hl, hx1]
      · rw [if_neg hr, if_neg hl] at s2
        simp [hr, hl, s2.1]
    rw [← hx2]
    rw [if_pos ht] at s3
    obtain ⟨items, hxj, hit⟩ := (get_go_spec s3).2 j hj
    exact ⟨items, hxj, fun i hi =>
      ⟨by rw [(hit i hi).1, Nat.sub_sub_self (Nat.le_of_lt hj)], fun hne => ((hit i hi).2 hne).unique hnum⟩⟩

/-- **get_attach_sound** (C07): when headers or blocks are fetched and every header carries
    its hash, a successful request has consumed, in order, the header batch, then the receipts
    batch or the logs reply, then one traces reply per block — and every receipt, log and trace,
    as well as the header that accompanies the logs, names a header of the validated batch by
    number and (if it names a hash at all) by hash, at the place the request asked for. -/
theorem get_attach_sound (p : Plan) (start limit : Nat) (xs : List Exch) (bs : List Block)
    (hp : p.blocks = true ∨ p.headers = true)
    (hh : ∀ x ∈ xs, x.hdrHashed)
    (h : get p start limit xs = some bs) :
    ∃ es xs1, xs = .headers es :: xs1 ∧
      (p.receipts = true → ∃ res xs2, xs1 = .receipts res :: xs2 ∧
        ∀ (j : Nat) (rs : List Rcpt) (r : Rcpt), j < limit → res[j]? = some (.val rs) → r ∈ rs →
          hdrAt es j r.bnum r.bhash) ∧
      (p.receipts = false → p.logs = true → ∃ hd items n xs2, xs1 = .logs (.val hd) (.val items) n :: xs2 ∧
        hdrAt es (limit - 1) (start + limit - 1) hd.hash ∧
        ∀ i ∈ items, hdrAt es (i.bnum - start) i.bnum i.bhash) ∧
      (p.traces = true → ∀ j, j < limit →
        ∃ items, (xs1.drop (if p.receipts || p.logs then 1 else 0))[j]? = some (.traces (.val items)) ∧
          ∀ i ∈ items, hdrAt es j i.bnum i.bhash) := by
  obtain ⟨es, xs1, hxs, hlim, hlen, hpt⟩ := get_headers hp h
  obtain ⟨xs1', f1, _, fr, fl, ft⟩ := get_attach_final p start limit xs bs h
  obtain ⟨es', hxs'⟩ := f1 hp
  rw [hxs] at hxs'
  cases hxs'
  have hhe : (Exch.headers es).hdrHashed := hh _ (hxs ▸ List.mem_cons_self)
  -- what `get_attach_final` says of the number and hash of block `start + j`, said of the header at place `j`
  have names : ∀ {j m : Nat} {hsh : String}, j < limit → m = start + j →
      (hsh ≠ "" → ∀ b ∈ bs, b.num = m → b.hash = hsh) → hdrAt es j m hsh := by
    intro j m hsh hj hm hag
    have hj' : j < bs.length := hlen ▸ hj
    obtain ⟨b0, hel, hk, hnum, _⟩ := hpt _ _ (List.getElem?_eq_getElem hj')
    refine ⟨_, _, hel, hk.1.symm.trans (hnum.trans hm.symm), fun hs => ?_⟩
    rw [← hk.2.2 (hhe _ _ (List.mem_of_getElem? hel))]
    exact hag hs _ (List.getElem_mem hj') (hnum.trans hm.symm)
  refine ⟨es, xs1, hxs, fun hr => ?_, fun hr hl => ?_, fun ht j hj => ?_⟩
  · obtain ⟨res, xs2, hx1, hrs⟩ := fr hr
    exact ⟨res, xs2, hx1, fun j rs r hj hrj hrm =>
      names hj (hrs j rs r hrj hrm).1 (hrs j rs r hrj hrm).2⟩
  · obtain ⟨hd, items, n, xs2, hx1, hH, hit⟩ := fl hr hl
    refine ⟨hd, items, n, xs2, hx1, names (Nat.sub_lt hlim Nat.one_pos)
      (Nat.add_sub_assoc hlim start) (hH hlim), fun i hi => ?_⟩
    obtain ⟨h1, h2, hag⟩ := hit i hi
    exact names (Nat.sub_lt_left_of_lt_add h1 h2) (Nat.add_sub_cancel' h1).symm hag
  · obtain ⟨items, hxj, hit⟩ := ft ht j hj
    exact ⟨items, hxj, fun i hi => names hj (hit i hi).1 (hit i hi).2⟩

section Examples

private def pHL : Plan := { blocks := false, headers := true, receipts := false, logs := true, traces := false }
private def pHR : Plan := { blocks := false, headers := true, receipts := true, logs := false, traces := false }
private def pH : Plan := { blocks := false, headers := true, receipts := false, logs := false, traces := false }

private def honestHL : List Exch :=
  [.headers [.val ({ num := 5, hash := "A", parent := "P" }, []), .val ({ num := 6, hash := "B", parent := "A" }, [])],
   .logs (.val { num := 6, hash := "B", parent := "A" })
     (.val [{ bnum := 5, bhash := "A", tx := 0, idx := 0 }, { bnum := 6, bhash := "B", tx := 2, idx := 1 },
            { bnum := 5, bhash := "A", tx := 0, idx := 3 }]) 2]

/-- an honest 2-block headers+logs request succeeds, with the logs attached where they belong -/
example : get pHL 5 2 honestHL =
    some [{ num := 5, hash := "A", parent := "P", txs := [{ idx := 0, logs := [0, 3] }] },
          { num := 6, hash := "B", parent := "A", txs := [{ idx := 2, logs := [1] }] }] := by decide +kernel

/-- and the honest replies satisfy the hypothesis of `get_linked` / `get_attach_sound` -/
example : ∀ x ∈ honestHL, x.hdrHashed := by
  intro x hx
  simp [honestHL] at hx
  rcases hx with rfl | rfl <;> simp only [Exch.hdrHashed]
  intro h txs hm
  simp at hm
  rcases hm with ⟨rfl, _⟩ | ⟨rfl, _⟩ <;> decide

/-- the same with the accompanying header of another fork: error -/
example : get pHL 5 2
    [.headers [.val ({ num := 5, hash := "A", parent := "P" }, []), .val ({ num := 6, hash := "B", parent := "A" }, [])],
     .logs (.val { num := 6, hash := "B'", parent := "A" })
       (.val [{ bnum := 5, bhash := "A", tx := 0, idx := 0 }, { bnum := 6, bhash := "B", tx := 2, idx := 1 }]) 2]
    = none := by decide +kernel

/-- a log of a block outside the requested range: error -/
example : get pHL 5 2
    [.headers [.val ({ num := 5, hash := "A", parent := "P" }, []), .val ({ num := 6, hash := "B", parent := "A" }, [])],
     .logs (.val { num := 6, hash := "B", parent := "A" }) (.val [{ bnum := 7, bhash := "C", tx := 0, idx := 0 }]) 2]
    = none := by decide +kernel

/-- a receipts reply in which the second receipt of block 5 names another block hash: error -/
example : get pHR 5 2
    [.headers [.val ({ num := 5, hash := "A", parent := "P" }, [0, 1]), .val ({ num := 6, hash := "B", parent := "A" }, [])],
     .receipts [.val [{ bnum := 5, bhash := "A", tx := 0, logs := [0] }, { bnum := 5, bhash := "Z", tx := 1, logs := [1] }],
                .val []]]
    = none := by decide +kernel

example : get pHR 5 2
    [.headers [.val ({ num := 5, hash := "A", parent := "P" }, [0, 1]), .val ({ num := 6, hash := "B", parent := "A" }, [])],
     .receipts [.val [{ bnum := 5, bhash := "A", tx := 0, logs := [0] }, { bnum := 5, bhash := "A", tx := 1, logs := [1] }],
                .val []]]
    = some [{ num := 5, hash := "A", parent := "P",
              txs := [{ idx := 0, logs := [0], fromRcpt := true }, { idx := 1, logs := [1], fromRcpt := true }] },
            { num := 6, hash := "B", parent := "A" }] := by decide +kernel

example : get pH 5 3
    [.headers [.val ({ num := 5, hash := "A", parent := "P" }, []), .val ({ num := 99, hash := "B", parent := "A" }, []),
               .val ({ num := 7, hash := "C", parent := "B" }, [])]] = none := by decide +kernel

/-- counterexample to `get_linked` without `hdrHashed`: the header of block 5 comes without hash,
    a log fills it in afterwards, and block 6 (parent "") is not linked to it -/
example : get pHL 5 2
    [.headers [.val ({ num := 5, hash := "", parent := "P" }, []), .val ({ num := 6, hash := "B", parent := "" }, [])],
     .logs (.val { num := 6, hash := "B", parent := "" }) (.val [{ bnum := 5, bhash := "X", tx := 0, idx := 0 }]) 2]
    = some [{ num := 5, hash := "X", parent := "P", txs := [{ idx := 0, logs := [0] }] },
            { num := 6, hash := "B", parent := "" }] := by decide +kernel

/-- hash laundering is rejected: a log without block hash does not erase the hash held for
    block 5, so the following log, naming another hash "X", is refused -/
example : get pHL 5 2
    [.headers [.val ({ num := 5, hash := "A", parent := "P" }, []), .val ({ num := 6, hash := "B", parent := "A" }, [])],
     .logs (.val { num := 6, hash := "B", parent := "A" })
       (.val [{ bnum := 5, bhash := "", tx := 0, idx := 0 }, { bnum := 5, bhash := "X", tx := 0, idx := 1 }]) 2]
    = none := by decide +kernel

/-- a log without block hash is still accepted, but leaves the hash held alone -/
example : get pHL 5 2
    [.headers [.val ({ num := 5, hash := "A", parent := "P" }, []), .val ({ num := 6, hash := "B", parent := "A" }, [])],
     .logs (.val { num := 6, hash := "B", parent := "A" })
       (.val [{ bnum := 5, bhash := "", tx := 0, idx := 0 }, { bnum := 5, bhash := "A", tx := 0, idx := 1 }]) 2]
    = some [{ num := 5, hash := "A", parent := "P", txs := [{ idx := 0, logs := [0, 1] }] },
            { num := 6, hash := "B", parent := "A" }] := by decide +kernel

/-- without headers (logs only): two logs of block 5 naming different block hashes: error -/
example : get { blocks := false, headers := false, receipts := false, logs := true, traces := false } 5 2
    [.logs (.val { num := 6, hash := "B", parent := "A" })
       (.val [{ bnum := 5, bhash := "A", tx := 0, idx := 0 }, { bnum := 5, bhash := "A'", tx := 1, idx := 1 }]) 2]
    = none := by decide +kernel

example : setHash { num := 5, hash := "A" } "" = some { num := 5, hash := "A" } := by decide +kernel

end Examples

end Shovel.Rpc
