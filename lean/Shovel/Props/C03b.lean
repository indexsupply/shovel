import Shovel.Gen.Sql

/-! The rollback (`World.delView t v n`, Proofs/WorldIter: the model's `DB.delCur` then `DB.delRows`) removes exactly
    this pair's positions (`mineC`: source name and integration name) at or above `n`, and this pair's rows (`mine`)
    at or above `delN … ≤ n` (one past the newest position that remains, as the code reassigns `n`) — nothing else,
    with no upper bound. This file ties that to the statements the source sends: regenerated on every run. -/
namespace Shovel.World

open Shovel.Gen.Sql

/-- **rollback_statements** (C02, C03): a reorg rollback consists of exactly three database calls —
    `Task.Delete` deletes the positions `src_name = $1 and ig_name = $2 and num >= $3` bound to the task's own
    source, integration and `n`; it reads the newest remaining position of the same pair; and
    `Integration.Delete` deletes the rows `src_name = $1 and ig_name = $2 and block_num >= $3` bound to the
    context's source, the integration's own name and `n`. The predicates are those of `World.delView`:
    the pair's stamp and a LOWER bound only (no upper bound, no other pair, no other column). -/
theorem rollback_statements :
    rollbackCalls =
      ["Task.Delete Exec: delete from shovel.task_updates where src_name = $1 and ig_name = $2 and num >= $3 <- t.srcName, t.destConfig.Name, n",
       "Task.Delete QueryRow: select num from shovel.task_updates where src_name = $1 and ig_name = $2 order by num desc limit 1 <- t.srcName, t.destConfig.Name",
       "Integration.Delete Exec: delete from %s where src_name = $1 and ig_name = $2 and block_num >= $3 <- wctx.SrcName(ctx), ig.name, n"] := by
  rfl

/-- **position_statements** (C01, C02, C04, C05): the statements by which a task reads and records its position
    are the model's. `latest` is "the newest position of this (source, integration)" (`DB.latestCur`: stamp
    equality, `order by num desc limit 1`); `latestDependency` is "per referenced integration its newest position
    on this source, the smallest of them first" (`depTarget`); `update` inserts one position row stamped with the
    task's own source and integration; the pruning statement partitions BY THE PAIR and keeps the `$1` newest
    positions of each (`World.prune`). -/
theorem position_statements :
    positionCalls =
      ["latest QueryRow: select num, hash from shovel.task_updates where src_name = $1 and ig_name = $2 order by num desc limit 1 <- t.srcName, t.destConfig.Name",
       "latestDependency Query: with latest as ( select distinct on (ig_name) ig_name, num, hash from shovel.task_updates where src_name = $1 and ig_name = ANY($2) order by ig_name, num desc ) select num, hash from latest order by num asc <- t.srcName, t.destConfig.Dependencies",
       "update Exec: insert into shovel.task_updates ( chain_id, src_name, ig_name, num, hash, src_num, src_hash, stop, nblocks, nrows, latency ) values ($1, $2, $3, $4, $5, $6, $7, $8, $9, $10, $11) <- t.srcChainID, t.srcName, t.destConfig.Name, num, hash, srcNum, srcHash, t.stop, nblocks, nrows, elapsed",
       "PruneTask Exec: delete from shovel.task_updates where (src_name, ig_name, num) not in ( select src_name, ig_name, num from ( select src_name, ig_name, num, row_number() over(partition by src_name, ig_name order by num desc) as rn from shovel.task_updates ) as s where rn <= $1 ) <- n"] := by
  rfl

end Shovel.World
