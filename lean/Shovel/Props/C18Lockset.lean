import Shovel.Model.Race
/-
  C18 — `lockset_sound`: in a well-formed trace, two accesses by different threads that both hold a
  common lock are ordered by happens-before.
-/
namespace Shovel.Race

/-- happens-before of a trace: program order, release → later acquire of the same lock,
    fork → the child's events, the child's events → join; transitively closed (`lockset_sound` needs
    `po` and `sw` only) -/
inductive HB (tr : Trace) : Nat → Nat → Prop where
  | po {i j t a b} : i < j → tr[i]? = some (t, a) → tr[j]? = some (t, b) → HB tr i j
  | sw {i j t t' l} : i < j → tr[i]? = some (t, .rel l) → tr[j]? = some (t', .acq l) → HB tr i j
  | fork {i j t c a} : i < j → tr[i]? = some (t, .fork c) → tr[j]? = some (c, a) → HB tr i j
  | join {i j t c a} : i < j → tr[i]? = some (c, a) → tr[j]? = some (t, .join c) → HB tr i j
  | trans {i j k} : HB tr i j → HB tr j k → HB tr i k

/-- the fold step of `lockState` -/
def lsStep (st : Option (List (Nat × Nat))) (e : Event) : Option (List (Nat × Nat)) :=
  match st with
  | none => none
  | some held =>
    match e.2 with
    | .acq l => if held.any (·.1 == l) then none else some ((l, e.1) :: held)
    | .rel l => if held.contains (l, e.1) then some (held.erase (l, e.1)) else none
    | _ => some held

theorem lockState_eq (tr : Trace) : lockState tr = tr.foldl lsStep (some []) := by
  cases tr with
  | nil => rfl
  | cons a t => rfl

theorem lockState_take_succ {tr : Trace} {n : Nat} {e : Event} (h : tr[n]? = some e) :
    lockState (tr.take (n + 1)) = lsStep (lockState (tr.take n)) e := by
  rw [lockState_eq, lockState_eq, List.take_add_one, h]
  simp [List.foldl_append]

theorem lockState_take_succ_none {tr : Trace} {n : Nat} (h : tr[n]? = none) :
    lockState (tr.take (n + 1)) = lockState (tr.take n) := by
  rw [List.take_add_one, h]; simp

theorem lsStep_none (e : Event) : lsStep none e = none := rfl

theorem lsStep_some {h h' : List (Nat × Nat)} {e : Event} (hs : lsStep (some h) e = some h') :
    (∃ l, e.2 = .acq l ∧ (∀ t, (l, t) ∉ h) ∧ h' = (l, e.1) :: h) ∨
    (∃ l, e.2 = .rel l ∧ (l, e.1) ∈ h ∧ h' = h.erase (l, e.1)) ∨
    ((∀ l, e.2 ≠ .acq l) ∧ (∀ l, e.2 ≠ .rel l) ∧ h' = h) := by
  obtain ⟨te, op⟩ := e
  cases op with
  | acq l =>
    simp only [lsStep, Option.ite_none_left_eq_some, Option.some.injEq] at hs
    refine .inl ⟨l, rfl, fun t hm => hs.1 ?_, hs.2.symm⟩
    exact List.any_eq_true.mpr ⟨(l, t), hm, by simp⟩
  | rel l =>
    simp only [lsStep, Option.ite_none_right_eq_some, Option.some.injEq] at hs
    exact .inr (.inl ⟨l, rfl, by simpa using hs.1, hs.2.symm⟩)
  | _ => exact .inr (.inr ⟨nofun, nofun, (Option.some.inj hs).symm⟩)

def Uniq (h : List (Nat × Nat)) : Prop := ∀ l t t', (l, t) ∈ h → (l, t') ∈ h → t = t'

theorem lsStep_uniq {h h' : List (Nat × Nat)} {e : Event}
    (hs : lsStep (some h) e = some h') (hu : Uniq h) : Uniq h' := by
  rcases lsStep_some hs with ⟨l0, _, hfree, rfl⟩ | ⟨l0, _, _, rfl⟩ | ⟨_, _, rfl⟩
  · intro l t t' hm hm'
    rcases List.mem_cons.mp hm with hm | hm <;> rcases List.mem_cons.mp hm' with hm' | hm'
    · cases hm; cases hm'; rfl
    · cases hm; exact absurd hm' (hfree _)
    · cases hm'; exact absurd hm (hfree _)
    · exact hu l t t' hm hm'
  · exact fun l t t' hm hm' => hu l t t' (List.mem_of_mem_erase hm) (List.mem_of_mem_erase hm')
  · exact hu

theorem lsStep_mem_fwd {h h' : List (Nat × Nat)} {e : Event} {l t : Nat}
    (hs : lsStep (some h) e = some h') (hm : (l, t) ∈ h) : (l, t) ∈ h' ∨ e = (t, .rel l) := by
  rcases lsStep_some hs with ⟨l0, _, _, rfl⟩ | ⟨l0, he, _, rfl⟩ | ⟨_, _, rfl⟩
  · exact .inl (List.mem_cons_of_mem _ hm)
  · by_cases heq : (l, t) = (l0, e.1)
    · cases heq; exact .inr (Prod.ext rfl he)
    · exact .inl ((List.mem_erase_of_ne heq).2 hm)
  · exact .inl hm

theorem lsStep_mem_bwd {h h' : List (Nat × Nat)} {e : Event} {l t : Nat}
    (hs : lsStep (some h) e = some h') (hm : (l, t) ∈ h') : (l, t) ∈ h ∨ e = (t, .acq l) := by
  rcases lsStep_some hs with ⟨l0, he, _, rfl⟩ | ⟨l0, _, _, rfl⟩ | ⟨_, _, rfl⟩
  · rcases List.mem_cons.mp hm with hm | hm
    · cases hm; exact .inr (Prod.ext rfl he)
    · exact .inl hm
  · exact .inl (List.mem_of_mem_erase hm)
  · exact .inl hm

theorem lsStep_rel {h h' : List (Nat × Nat)} {l t : Nat}
    (hs : lsStep (some h) (t, .rel l) = some h') : (l, t) ∈ h ∧ h' = h.erase (l, t) := by
  rcases lsStep_some hs with ⟨_, he, _⟩ | ⟨_, he, hm, rfl⟩ | ⟨_, hne, _⟩
  · cases he
  · cases he; exact ⟨hm, rfl⟩
  · exact absurd rfl (hne l)

theorem lockState_uniq {tr : Trace} : ∀ {n h}, lockState (tr.take n) = some h → Uniq h := by
  intro n
  induction n with
  | zero =>
    intro h hs
    simp [lockState] at hs
    subst hs
    intro l t t' hm; cases hm
  | succ n ih =>
    intro h hs
    cases hn : tr[n]? with
    | none => rw [lockState_take_succ_none hn] at hs; exact ih hs
    | some e =>
      rw [lockState_take_succ hn] at hs
      cases h0 : lockState (tr.take n) with
      | none => rw [h0, lsStep_none] at hs; cases hs
      | some h0' => rw [h0] at hs; exact lsStep_uniq hs (ih h0)

theorem holds_succ {tr : Trace} (hwf : WF tr) {n t l : Nat} (h : holds tr n t l) :
    holds tr (n + 1) t l ∨ tr[n]? = some (t, .rel l) := by
  obtain ⟨s, hs, hm⟩ := h
  cases hn : tr[n]? with
  | none => exact .inl ⟨s, by rw [lockState_take_succ_none hn]; exact hs, hm⟩
  | some e =>
    have hwf' := hwf (n + 1)
    rw [lockState_take_succ hn, hs] at hwf'
    obtain ⟨s', hs'⟩ := Option.isSome_iff_exists.mp hwf'
    exact (lsStep_mem_fwd hs' hm).imp
      (fun hm' => ⟨s', by rw [lockState_take_succ hn, hs, hs'], hm'⟩) (congrArg some)

theorem holds_pred {tr : Trace} {n t l : Nat} (h : holds tr (n + 1) t l) :
    holds tr n t l ∨ tr[n]? = some (t, .acq l) := by
  obtain ⟨s', hs', hm'⟩ := h
  cases hn : tr[n]? with
  | none => exact .inl ⟨s', by rw [← lockState_take_succ_none hn]; exact hs', hm'⟩
  | some e =>
    rw [lockState_take_succ hn] at hs'
    cases h0 : lockState (tr.take n) with
    | none => rw [h0] at hs'; cases hs'
    | some s =>
      rw [h0] at hs'
      exact (lsStep_mem_bwd hs' hm').imp (fun hm => ⟨s, h0, hm⟩) (congrArg some)

theorem held_until_release {tr : Trace} (hwf : WF tr) {i t l : Nat} (h1 : holds tr i t l) {k : Nat}
    (hk : i ≤ k) : holds tr k t l ∨ ∃ r, i ≤ r ∧ r < k ∧ tr[r]? = some (t, .rel l) := by
  induction hk with
  | refl => exact .inl h1
  | @step k hik ih =>
    rcases ih with h | ⟨r, hir, hrk, hr⟩
    · exact (holds_succ hwf h).imp_right fun hr => ⟨k, hik, Nat.lt_succ_self k, hr⟩
    · exact .inr ⟨r, hir, Nat.lt_succ_of_lt hrk, hr⟩

theorem held_since_acquire {tr : Trace} {k t l j : Nat} (hj : k ≤ j) (h : holds tr j t l) :
    holds tr k t l ∨ ∃ a, k ≤ a ∧ a < j ∧ tr[a]? = some (t, .acq l) := by
  induction hj with
  | refl => exact .inl h
  | @step j hkj ih =>
    rcases holds_pred h with hp | ha
    · exact (ih hp).imp_right fun ⟨a, hka, haj, ha⟩ => ⟨a, hka, Nat.lt_succ_of_lt haj, ha⟩
    · exact .inr ⟨j, hkj, Nat.lt_succ_self j, ha⟩

theorem holds_unique {tr : Trace} {n t t' l : Nat} (h : holds tr n t l) (h' : holds tr n t' l) :
    t = t' := by
  obtain ⟨s, hs, hm⟩ := h
  obtain ⟨s', hs', hm'⟩ := h'
  rw [hs] at hs'; cases hs'
  exact lockState_uniq hs l t t' hm hm'

theorem not_holds_after_release {tr : Trace} {r t t' l : Nat}
    (hr : tr[r]? = some (t, .rel l)) (hne : t ≠ t') : ¬ holds tr (r + 1) t' l := by
  rintro ⟨h', hs', hm'⟩
  rw [lockState_take_succ hr] at hs'
  cases h0 : lockState (tr.take r) with
  | none => rw [h0, lsStep_none] at hs'; cases hs'
  | some h =>
    rw [h0] at hs'
    obtain ⟨hm, he⟩ := lsStep_rel hs'
    subst he
    exact hne (lockState_uniq h0 l t t' hm (List.mem_of_mem_erase hm'))

/-- **lockset_sound** (C18): in every well-formed trace (a lock is acquired only when free and
    released only by its holder), two accesses by different threads that both hold a common lock
    are ordered by happens-before — so with every conflicting pair of accesses to a shared location
    guarded by a common mutex (the `discipline_*` facts) there is no data race on that location. -/
theorem lockset_sound (tr : Trace) (hwf : WF tr) (i j : Nat) (hij : i < j)
    (t1 t2 x : Nat) (w1 w2 : Bool) (l : Nat)
    (hi : tr[i]? = some (t1, .acc x w1)) (hj : tr[j]? = some (t2, .acc x w2)) (hne : t1 ≠ t2)
    (h1 : holds tr i t1 l) (h2 : holds tr j t2 l) :
    HB tr i j := by
  -- t1 releases l at some r ∈ [i, j)
  obtain ⟨r, hir, hrj, hr⟩ : ∃ r, i ≤ r ∧ r < j ∧ tr[r]? = some (t1, .rel l) :=
    (held_until_release hwf h1 (Nat.le_of_lt hij)).resolve_left
      fun hh => hne (holds_unique hh h2)
  have hir' : i < r := by
    rcases Nat.lt_or_eq_of_le hir with h | h
    · exact h
    · subst h; rw [hi] at hr; cases hr
  -- t2 acquires l at some a ∈ (r, j)
  obtain ⟨a, hra, haj, ha⟩ : ∃ a, r + 1 ≤ a ∧ a < j ∧ tr[a]? = some (t2, .acq l) :=
    (held_since_acquire hrj h2).resolve_left (not_holds_after_release hr hne)
  exact .trans (.po hir' hi hr) (.trans (.sw hra hr ha) (.po haj ha hj))

theorem WF_iff (tr : Trace) : WF tr ↔ ∀ n, n ≤ tr.length → (lockState (tr.take n)).isSome := by
  constructor
  · intro h n _; exact h n
  · intro h n
    by_cases hn : n ≤ tr.length
    · exact h n hn
    · have : tr.take n = tr.take tr.length := by
        rw [List.take_length, List.take_of_length_le (by omega)]
      rw [this]; exact h _ (Nat.le_refl _)

instance (tr : Trace) : Decidable (WF tr) :=
  decidable_of_iff (∀ n, n < tr.length + 1 → (lockState (tr.take n)).isSome = true)
    (by rw [WF_iff]; exact ⟨fun h n hn => h n (by omega), fun h n hn => h n (by omega)⟩)

def exLocked : Trace :=
  [(1, .acq 0), (1, .acc 7 true), (1, .rel 0), (2, .acq 0), (2, .acc 7 true), (2, .rel 0)]

def exUnlocked : Trace := [(1, .acc 7 true), (2, .acc 7 true)]

instance (tr : Trace) (i t l : Nat) : Decidable (holds tr i t l) :=
  match h : lockState (tr.take i) with
  | none => isFalse (by rintro ⟨s, hs, _⟩; rw [h] at hs; cases hs)
  | some s =>
    if hm : (l, t) ∈ s then isTrue ⟨s, h, hm⟩
    else isFalse (by rintro ⟨s', hs', hm'⟩; rw [h] at hs'; cases hs'; exact hm hm')

/-- the hypotheses of `lockset_sound` are satisfiable: the locked trace is well-formed, and both
    writes (positions 1 and 4, threads 1 ≠ 2) hold lock 0 -/
example : WF exLocked ∧ exLocked[1]? = some (1, .acc 7 true) ∧ exLocked[4]? = some (2, .acc 7 true) ∧
    holds exLocked 1 1 0 ∧ holds exLocked 4 2 0 := by decide

example : HB exLocked 1 4 :=
  lockset_sound exLocked (by decide) 1 4 (by decide) 1 2 7 true true 0 (by decide) (by decide)
    (by decide) (by decide) (by decide)

/-- without the lock the trace is still well-formed but neither write holds any lock, so the
    theorem does not apply — nothing forces the two accesses into happens-before order
    (`l < 4` only makes the statement decidable: the trace mentions no lock at all) -/
example : WF exUnlocked ∧ (∀ l, l < 4 → ¬ holds exUnlocked 0 1 l ∧ ¬ holds exUnlocked 1 2 l) := by
  decide

end Shovel.Race
