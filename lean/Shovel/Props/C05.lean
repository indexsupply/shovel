import Shovel.Model.Deps
/-
  C05 (configuration side) — the dependency list that gates a task (World.dep_gate is stated over
  `task.deps`) is complete: EVERY filter reference of an accepted configuration puts the referenced
  integration into the referencing integration's Dependencies, for any number of integrations
  referencing the same integration / the same column, in any declaration order.
-/
namespace Shovel.Deps

theorem check_dep {igs : List Ig} {r : Ref} {n : String} : check igs r = .dep n →
    r.integration ≠ "" ∧ n = r.integration ∧ (tableOf igs n).isSome := by
  fun_cases check igs r with
  | case3 hne t ht => rintro ⟨⟩; exact ⟨hne, rfl, by rw [ht]; rfl⟩
  | case1 | case2 | case4 | case5 | case6 => nofun

theorem check_none {igs : List Ig} {r : Ref} : check igs r = .none → r.integration = "" := by
  fun_cases check igs r with
  | case6 hne => exact fun _ => Decidable.not_not.1 hne
  | case1 | case2 | case3 | case4 | case5 => nofun

theorem depsOfRefs_eq {igs : List Ig} {rs : List Ref} {d : List String} :
    depsOfRefs igs rs = some d →
      d = (rs.map (·.integration)).filter (· ≠ "") ∧ ∀ n ∈ d, (tableOf igs n).isSome := by
  fun_induction depsOfRefs igs rs generalizing d with
  | case1 => rintro ⟨⟩; exact ⟨rfl, nofun⟩
  | case2 => nofun
  | case3 r rs hc ih =>
    intro h
    obtain ⟨rfl, hd⟩ := ih h
    exact ⟨by simp [check_none hc], hd⟩
  | case4 r rs n hc ih =>
    intro h
    obtain ⟨hne, rfl, ht⟩ := check_dep hc
    obtain ⟨d', hrs, rfl⟩ := Option.map_eq_some_iff.1 h
    obtain ⟨rfl, hd⟩ := ih hrs
    exact ⟨by simp [hne], List.forall_mem_cons.2 ⟨ht, hd⟩⟩

theorem depsOfRefs_complete (igs : List Ig) :
    ∀ (rs : List Ref) (d : List String), depsOfRefs igs rs = some d →
      ∀ r ∈ rs, r.integration ≠ "" → r.integration ∈ d := by
  intro rs d h r hr hne
  rw [(depsOfRefs_eq h).1]
  exact List.mem_filter.2 ⟨List.mem_map.2 ⟨r, hr, rfl⟩, by simpa using hne⟩

/-- **depsOfRefs_only** (C05): every entry of a dependency list comes from a reference of that integration and names a
    declared integration (a task never waits for something that does not exist) -/
theorem depsOfRefs_only (igs : List Ig) :
    ∀ (rs : List Ref) (d : List String), depsOfRefs igs rs = some d →
      ∀ n ∈ d, (∃ r ∈ rs, r.integration = n) ∧ (tableOf igs n).isSome := by
  intro rs d h n hn
  obtain ⟨hd, ht⟩ := depsOfRefs_eq h
  rw [hd] at hn
  exact ⟨List.mem_map.1 (List.mem_filter.1 hn).1, ht n (hd ▸ hn)⟩

/-- **deps_complete** (C05): in an accepted configuration, position by position, the entry produced for an
    integration carries its name and contains the integration named by EVERY one of its filter
    references (event inputs and block fields) — however many other integrations reference the
    same integration or column, and wherever they stand in the configuration. -/
theorem deps_complete (all : List Ig) :
    ∀ (gs : List Ig) (out : List (String × List String)), validateGo all gs = some out →
      out.length = gs.length ∧
      ∀ p ∈ gs.zip out, p.2.1 = p.1.name ∧
        (∀ r ∈ p.1.inputRefs ++ p.1.blockRefs, r.integration ≠ "" → r.integration ∈ p.2.2) ∧
        (∀ n ∈ p.2.2, (∃ r ∈ p.1.inputRefs ++ p.1.blockRefs, r.integration = n) ∧ (tableOf all n).isSome)
  | [], out, h => by cases h; exact ⟨rfl, fun _ h => (List.not_mem_nil h).elim⟩
  | g :: gs, out, h => by
    rw [validateGo] at h
    cases hd : depsOfIg all g with
    | none => simp [hd] at h
    | some d =>
      cases hrest : validateGo all gs with
      | none => simp [hd, hrest] at h
      | some out' =>
        simp only [hd, hrest, Option.map_some, Option.some.injEq] at h
        subst h
        obtain ⟨hl, hz⟩ := deps_complete all gs out' hrest
        refine ⟨by simp [hl], ?_⟩
        rw [List.zip_cons_cons, List.forall_mem_cons]
        exact ⟨⟨rfl, depsOfRefs_complete all _ d hd, depsOfRefs_only all _ d hd⟩, hz⟩

/-- **deps_none** (C05): an integration with no filter reference waits for nothing -/
theorem deps_none (all : List Ig) (g : Ig)
    (h : ∀ r ∈ g.inputRefs ++ g.blockRefs, r = { integration := "", column := "", table := "" }) :
    depsOfIg all g = some [] := by
  unfold depsOfIg
  generalize g.inputRefs ++ g.blockRefs = rs at h
  induction rs with
  | nil => rfl
  | cons r rs ih =>
    have hr := h r List.mem_cons_self
    subst hr
    unfold depsOfRefs
    have : check all { integration := "", column := "", table := "" } = .none := by
      unfold check; simp
    rw [this]
    exact ih (fun r hr => h r (List.mem_cons_of_mem _ hr))

-- three integrations reference the same column of `pools` (the second and third in declaration order as
-- well); all three wait for it.
def exPools : Ig := { name := "pools", table := "pools", columns := ["pool"], inputRefs := [], blockRefs := [] }
def exDep (n : String) : Ig :=
  { name := n, table := n, columns := ["x"], inputRefs := [], blockRefs := [{ integration := "pools", column := "pool" }] }
example : validate [exPools, exDep "swaps", exDep "mints", exDep "burns"] =
      some [("pools", []), ("swaps", ["pools"]), ("mints", ["pools"]), ("burns", ["pools"])] := by
  decide +kernel

example : validate [{ name := "a", table := "a", columns := [], inputRefs := [{ integration := "zz", column := "c" }], blockRefs := [] }] = none := by
  decide +kernel

end Shovel.Deps
