import Shovel.Proofs.AbiDecl
/-
  C09 (parser part) `parse_correct` and C13 `sig_canonical`.
  Theorems are about `Shovel.Abi` (model of Input.ABIType / parseArray / Event.ABIType and
  Input.Signature / Event.Signature in dig/dig.go).
-/
namespace Shovel.Abi

/-- **parse_positions** (C09): position threading, stated on its own: the next free column after
    the declaration is the number the specification assigns -/
theorem parse_positions (ds : List (Bool × STy)) (hwf : ∀ d ∈ ds, d.2.wf = true) (pos : Nat) :
    eventFields (declInps ds) pos = .ok (declExpect pos ds) := by
  fun_induction declExpect pos ds with
  | case1 pos => rw [declInps, eventFields]
  | case2 pos t rest ih =>
    rw [declInps, eventFields, toInp_indexed, if_pos rfl]
    exact ih fun d hd => hwf d (by simp [hd])
  | case3 pos ix t rest hix p1 t' he p2 ts hr ih =>
    rw [declInps, eventFields, toInp_indexed, if_neg hix,
      abiType_full t ix pos (hwf (ix, t) (by simp)), he]
    simp only [ih fun d hd => hwf d (by simp [hd]), hr]

/-- **parse_correct** (C09): for every well-formed declaration — elementary names incl. bytes vs
    bytesN, `T[k]` for every k ≥ 1 incl. k ≥ 10, `T[]`, arrays of arrays, tuples, tuple arrays,
    nested to any depth, any selection — the type the decoder is built from is the denoted one,
    with selected leaves numbered in declaration order. -/
theorem parse_correct (ds : List (Bool × STy)) (hwf : ∀ d ∈ ds, d.2.wf = true) :
    eventAbiType (declInps ds) = .ok (.tup (declExpect 0 ds).2) := by
  unfold eventAbiType
  rw [parse_positions ds hwf 0]

/-- **sig_canonical** (C13): the signature string is the canonical Solidity signature for any
    nesting of tuples and arrays. -/
theorem sig_canonical (name : List Char) (ds : List (Bool × STy)) (hwf : ∀ d ∈ ds, d.2.wf = true) :
    eventSignature name (declInps ds) = name ++ '(' :: declCanon ds ++ [')'] := by
  unfold eventSignature
  rw [sig_decl ds hwf]

/-- **input_abiType_correct** (C09): `parse_positions` for a single input -/
theorem input_abiType_correct (t : STy) (ix : Bool) (pos : Nat) (hwf : t.wf = true) :
    Inp.abiType (t.toInp ix) pos = .ok (STy.expect pos t) :=
  abiType_full t ix pos hwf

/-- **input_signature_canonical** (C13): `sig_canonical` for a single input -/
theorem input_signature_canonical (t : STy) (ix : Bool) (hwf : t.wf = true) :
    Inp.signature (t.toInp ix) = t.canon :=
  sig_full t ix hwf

/- Where a statement carries a long string literal, `"…".toList` is first rewritten to the
   character list by `String.toList_ofList`, for the reason given at `bytesP_eq` in
   `Proofs/AbiDecl.lean`; the decoder it avoids is quadratic in the length. -/

/-- `Transfer(address indexed from, address indexed to, uint256 value)` with `value` selected -/
def erc20Transfer : List (Bool × STy) :=
  [(true, .elem "address".toList true), (true, .elem "address".toList true),
   (false, .elem "uint256".toList true)]

example : ∀ d ∈ erc20Transfer, d.2.wf = true := by decide +kernel

example : eventSignature "Transfer".toList (declInps erc20Transfer)
    = "Transfer(address,address,uint256)".toList := by
  unfold erc20Transfer
  repeat rw [String.toList_ofList]
  decide +kernel

example : eventAbiType (declInps erc20Transfer) = .ok (.tup (.cons (.stat (some 0)) .nil)) := by rfl

example : declCanon erc20Transfer = "address,address,uint256".toList := by
  rw [String.toList_ofList]; decide +kernel

/-- Seaport-like: `OrderFulfilled(bytes32 orderHash, address indexed offerer, address indexed zone,
    address recipient, (uint8 itemType, address token, uint256[12] ids, bytes extra)[] offer,
    (uint8,address,string)[3][] consideration)`; outside `Ty.inDomain` (the selected `ids` array
    sits in a tuple that is an array element), so the parser theorems cover it, `scan_encode` not -/
def seaportLike : List (Bool × STy) :=
  [(false, .elem "bytes32".toList true),
   (true, .elem "address".toList false),
   (true, .elem "address".toList false),
   (false, .elem "address".toList true),
   (false, .arr 0 (.tuple
      (.cons (.elem "uint8".toList false)
      (.cons (.elem "address".toList true)
      (.cons (.arr 12 (.elem "uint256".toList true))
      (.cons (.elem "bytes".toList true) .nil)))))),
   (false, .arr 0 (.arr 3 (.tuple
      (.cons (.elem "uint8".toList false)
      (.cons (.elem "address".toList false)
      (.cons (.elem "string".toList true) .nil))))))]

theorem seaportLike_wf : ∀ d ∈ seaportLike, d.2.wf = true := by decide +kernel

example : ∀ d ∈ seaportLike, d.2.wf = true := seaportLike_wf

example : eventSignature "OrderFulfilled".toList (declInps seaportLike)
    = ("OrderFulfilled(bytes32,address,address,address," ++
       "(uint8,address,uint256[12],bytes)[],(uint8,address,string)[3][])").toList := by
  unfold seaportLike
  rw [String.toList_append]
  repeat rw [String.toList_ofList]
  decide +kernel

/-- the type strings the JSON ABI carries for the two tuple arrays -/
example : (declInps seaportLike) =
    .cons (.mk false true "bytes32".toList .nil)
    (.cons (.mk true false "address".toList .nil)
    (.cons (.mk true false "address".toList .nil)
    (.cons (.mk false true "address".toList .nil)
    (.cons (.mk false false "tuple[]".toList
      (.cons (.mk false false "uint8".toList .nil)
      (.cons (.mk false true "address".toList .nil)
      (.cons (.mk false true "uint256[12]".toList .nil)
      (.cons (.mk false true "bytes".toList .nil) .nil)))))
    (.cons (.mk false false "tuple[3][]".toList
      (.cons (.mk false false "uint8".toList .nil)
      (.cons (.mk false false "address".toList .nil)
      (.cons (.mk false true "string".toList .nil) .nil))))
    .nil))))) := by
  unfold seaportLike
  repeat rw [String.toList_ofList]
  rfl

example : eventAbiType (declInps seaportLike) = .ok (.tup
    (.cons (.stat (some 0))
    (.cons (.stat (some 1))
    (.cons (.arr 0 (.tup
      (.cons (.stat none)
      (.cons (.stat (some 2))
      (.cons (.arr 12 (.stat (some 3)))
      (.cons (.dyn (some 4)) .nil))))))
    (.cons (.arr 0 (.arr 3 (.tup
      (.cons (.stat none)
      (.cons (.stat none)
      (.cons (.dyn (some 5)) .nil))))))
    .nil))))) := by
  -- through `parse_correct`: evaluating the parser itself on the type strings is three times dearer
  rw [parse_correct seaportLike seaportLike_wf]
  rfl

example : (declExpect 0 seaportLike).1 = 6 := by rfl

/-- multi-digit and nested dimensions: `bytes4[100][][3]` (static word, not `bytes`) -/
example : eventAbiType (declInps [(false, .arr 3 (.arr 0 (.arr 100 (.elem "bytes4".toList true))))])
    = .ok (.tup (.cons (.arr 3 (.arr 0 (.arr 100 (.stat (some 0))))) .nil)) := by rfl

example : eventSignature "E".toList
    (declInps [(false, .arr 3 (.arr 0 (.arr 100 (.elem "bytes4".toList true))))])
    = "E(bytes4[100][][3])".toList := by
  repeat rw [String.toList_ofList]
  decide +kernel

/-- `bytes[2]`: dynamic element under a fixed array -/
example : eventAbiType (declInps [(false, .arr 2 (.elem "bytes".toList true))])
    = .ok (.tup (.cons (.arr 2 (.dyn (some 0))) .nil)) := by rfl

-- why the side conditions of `wf` are there: what the modelled Go code does outside them

/-- an empty type string with an array suffix: Go's `for i := len(s)-2; i != 0; i--` starts at
    `i = 0`, skips the loop and slices `s[:len(s)-len(num)-2]` = `s[:0]` — no panic, and the
    model/Go yields `arr 0` for `"[]"`.  `nameOK` excludes the empty name. -/
example : parseArray 5 (.stat none) "[]".toList = .ok (.arr 0 (.stat none)) := by rfl

/-- a type string with `]` but no matching `[` before non-digits makes `strconv.Atoi` fail and the
    Go code panic -/
example : parseArray 9 (.stat none) "uint8x]".toList = .panic := by rw [String.toList_ofList]; rfl

/-- `T[0]` (not valid Solidity) parses to the same decoder type as `T[]`: `arrayK(0, e)` has
    `length = 0` like `array(e)`; the rendering of `STy` never produces it (`k = 0` prints `[]`) -/
example : parseArray 12 (.stat none) "uint8[0]".toList
    = parseArray 12 (.stat none) "uint8[]".toList := by
  repeat rw [String.toList_ofList]
  rfl

/-- a tuple without components is treated as an elementary static word by `Input.ABIType`
    (hence the "at least one member" clause of `wf`) -/
example : eventAbiType (.cons (.mk false false "tuple".toList .nil) .nil)
    = .ok (.tup (.cons (.stat none) .nil)) := by rfl

/-- names that merely start with `string` are classified dynamic by the Go code
    (`strings.HasPrefix(type, "string")`), hence the `string` clause of `nameOK` -/
example : eventAbiType (.cons (.mk false true "stringy".toList .nil) .nil)
    = .ok (.tup (.cons (.dyn (some 0)) .nil)) := by rfl

end Shovel.Abi
