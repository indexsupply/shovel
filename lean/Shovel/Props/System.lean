import Shovel.Props.Insert
import Shovel.Props.WorldConverge
/-
  The layers side by side (C01, C02, C03, C06 end to end): the World model (Converge / load / insert /
  update over the database, `Model/World.lean`) treats "the rows block b projects" as a field of the
  block; the Insert model (`Model/Insert.lean`) computes the rows the row builder hands to COPY for a batch.

  * `insert_batch_flat` — for every batch of blocks whose rows the per-item specifications fix (`Fixed`),
    in every state of the reused decoder, the Insert model produces exactly the concatenation, block by
    block, of those rows: the abstraction `newRows = bs.flatMap rows` of the World model is what the row
    builder does.
  * `system_table_exact`, `system_after_reorg`, `system_stopped_at_stop`, `system_despite_faults` — the
    World theorems `reaches_head`, `converges_after_reorg`, `stopped_at_stop`, `converges_despite_faults`
    on the chain `chainOf … sbs`, whose blocks are DEFINED to project `specBlockRows` (the specified rows;
    none where the specification fixes nothing), rewritten by `slice_chainOf` into rows of `specRows` /
    `specTxRows`.  The two halves meet in `specBlockRows`; no statement here mentions both `insert` and `converge`.
-/
namespace Shovel.System
open Shovel.World Shovel.Insert Shovel.Row Shovel.Abi

/-- a block of the chain: its header data and its content as the declaration sees it -/
structure SBlock where
  num : Nat
  hash : String
  parent : String
  ab : ABlock

/-- the rows the property demands of one block (none where it fixes nothing) -/
def specBlockRows (refs : Refs) (d : Decl) (ty : Ty) (mode : Mode) (base : Ctx) (sb : SBlock) : List (List DVal) :=
  (specInsert refs d ty mode base [sb.ab]).getD []

/-- the property fixes the rows of every item of the block -/
def Fixed (refs : Refs) (d : Decl) (ty : Ty) (mode : Mode) (base : Ctx) (sb : SBlock) : Prop :=
  (specInsert refs d ty mode base [sb.ab]).isSome = true

theorem specItems_cons (refs : Refs) (d : Decl) (ty : Ty) (mode : Mode) (base : Ctx) (b : ABlock) (bs : List ABlock) :
    specItems refs d ty mode base (b :: bs) =
      specItems refs d ty mode base [b] ++ specItems refs d ty mode base bs := by
  simp [specItems]

theorem specInsert_flat (refs : Refs) (d : Decl) (ty : Ty) (mode : Mode) (base : Ctx) :
    ∀ (sbs : List SBlock), (∀ sb ∈ sbs, Fixed refs d ty mode base sb) →
      specInsert refs d ty mode base (sbs.map (·.ab)) = some (sbs.flatMap (specBlockRows refs d ty mode base))
  | [], _ => rfl
  | sb :: rest, h => by
    have ih := specInsert_flat refs d ty mode base rest (fun x hx => h x (List.mem_cons_of_mem _ hx))
    have h1 := h sb (List.mem_cons_self ..)
    unfold Fixed at h1
    unfold specInsert at ih h1 ⊢
    simp only [List.map_cons]
    rw [specItems_cons]
    cases hs : joinSpec (specItems refs d ty mode base [sb.ab]) with
    | none => rw [hs] at h1; cases h1
    | some r1 =>
      rw [joinSpec_append, hs, ih]
      simp only [List.flatMap_cons, specBlockRows, specInsert, hs, Option.getD_some, Option.bind_some, Option.map_some]

/-- **insert_batch_flat** (C01): what `Insert` writes for a batch is the concatenation of what the property
    demands of each block — from every state of the reused decoder, which is left ready for the next batch -/
theorem insert_batch_flat (refs : Refs) (d : Decl) (ty : Ty) (hd : DeclOK d ty) (mode : Mode) (base : Ctx)
    (sbs : List SBlock) (s : Abi.St) (hs : Abi.WF s ty.nsel)
    (hok : BatchOK d ty (sbs.map (·.ab))) (hfix : ∀ sb ∈ sbs, Fixed refs d ty mode base sb) :
    ∃ s', insert refs d ty mode base ((sbs.map (·.ab)).map (ABlock.toE ty)) s =
        Res.ok (sbs.flatMap (specBlockRows refs d ty mode base), s') ∧ Abi.WF s' ty.nsel :=
  insert_exact refs d ty hd mode base (sbs.map (·.ab)) s hs hok _ (specInsert_flat refs d ty mode base sbs hfix)

/-! `Task.insert` hands the loaded batch to `Integration.Insert` in chunks:
    `for i := 0; i < len(blocks); i += t.batchSize { n := min(i + batchSize, len); dests[i].Insert(blocks[i:n]) }` -/

/-- the `(i, n)` chunks of `Task.insert` for `len` loaded blocks (fuel = `len`: `i` grows by at least one;
    `max batch 1` instead of Go's `i += t.batchSize` only makes the definition total at `batch = 0`, which
    the theorems exclude) -/
def insertChunks (len batch : Nat) : Nat → Nat → List (Nat × Nat)
  | 0, _ => []
  | fuel + 1, i => if i < len then (i, min (i + batch) len) :: insertChunks len batch fuel (i + max batch 1) else []

theorem insertChunks_nil (len batch : Nat) {fuel i : Nat} (h : len ≤ i) : insertChunks len batch fuel i = [] := by
  cases fuel with
  | zero => rfl
  | succ f => rw [insertChunks, if_neg (by omega)]

/-- **insertChunks_cover** (C01): the chunks are consecutive, start at 0 and end at `len`: every loaded block is handed over exactly once, in order -/
theorem insertChunks_cover (len batch : Nat) (hb : 1 ≤ batch) : ∀ (fuel i : Nat), len - i ≤ fuel → i ≤ len →
    (insertChunks len batch fuel i).flatMap (fun c => (List.range (c.2 - c.1)).map (· + c.1)) =
      (List.range (len - i)).map (· + i) := by
  intro fuel
  induction fuel with
  | zero => intro i hf _; rw [insertChunks_nil len batch (by omega), show len - i = 0 by omega]; rfl
  | succ fuel ih =>
    intro i hf _
    by_cases hlt : i < len
    · rw [insertChunks, if_pos hlt, List.flatMap_cons, show max batch 1 = batch by omega]
      by_cases hlast : len ≤ i + batch
      · rw [insertChunks_nil len batch hlast, show min (i + batch) len = len by omega]
        exact List.append_nil _
      · rw [ih (i + batch) (by omega) (by omega), show min (i + batch) len - i = batch by omega,
          show len - i = batch + (len - (i + batch)) by omega, List.range_add, List.map_append, List.map_map]
        congr 1
        exact List.map_congr_left fun a _ => by simp only [Function.comp]; omega
    · rw [insertChunks_nil len batch (by omega), show len - i = 0 by omega]; rfl

/-- **insert_single_call** (C01): for `1 ≤ len ≤ batch` the chunks are the single `(0, len)`.  Read with
    `step_exact` (a step loads at most `batch_size` blocks): `Task.insert` then makes ONE `Insert` call with
    the whole batch, which is what `insert_exact` is about -/
theorem insert_single_call (len batch : Nat) (h1 : 1 ≤ len) (h2 : len ≤ batch) :
    insertChunks len batch len 0 = [(0, len)] := by
  obtain ⟨k, rfl⟩ : ∃ k, len = k + 1 := ⟨len - 1, by omega⟩
  rw [insertChunks, if_pos (by omega), insertChunks_nil _ _ (by omega), Nat.zero_add,
    show min batch (k + 1) = k + 1 by omega]

/-- the World model's view of a block: header data and the projected rows as (unique key, payload) -/
def toBlk (refs : Refs) (d : Decl) (ty : Ty) (mode : Mode) (base : Ctx) (key pay : List DVal → String)
    (sb : SBlock) : Blk :=
  { num := sb.num, hash := sb.hash, parent := sb.parent,
    rows := (specBlockRows refs d ty mode base sb).map fun r => (key r, pay r) }

def chainOf (refs : Refs) (d : Decl) (ty : Ty) (mode : Mode) (base : Ctx) (key pay : List DVal → String)
    (sbs : List SBlock) : Chain := ⟨sbs.map (toBlk refs d ty mode base key pay)⟩

/-- the table rows the declaration derives from one block for task `t` -/
def tableRows (t : Task) (refs : Refs) (d : Decl) (ty : Ty) (mode : Mode) (base : Ctx) (key pay : List DVal → String)
    (sb : SBlock) : List TRow :=
  (specBlockRows refs d ty mode base sb).map fun r =>
    { table := t.table, src := t.src, ig := t.ig, blk := sb.num, key := key r, pay := pay r }

theorem slice_chainOf (t : Task) (refs : Refs) (d : Decl) (ty : Ty) (mode : Mode) (base : Ctx)
    (key pay : List DVal → String) (sbs : List SBlock) (a n : Nat) :
    ((chainOf refs d ty mode base key pay sbs).slice a n).flatMap (rowsFor t) =
      ((sbs.drop a).take n).flatMap (tableRows t refs d ty mode base key pay) := by
  show (((sbs.map (toBlk refs d ty mode base key pay)).drop a).take n).flatMap (rowsFor t) = _
  rw [← List.map_drop, ← List.map_take, List.flatMap_map]
  congr 1
  funext sb
  simp [rowsFor, toBlk, tableRows, List.map_map, Function.comp_def]

/-- **system_table_exact** (C01 end to end).  Chain of blocks `sbs` (block `i` at index `i`), a task
    `t` of a declaration `d` with a configured start and no stop; `key`/`pay` render a row's unique key
    and its content.  From any database satisfying the invariant (e.g. the empty one), after at
    least `head − position` steps of `run` (fault-free, against the canonical healthy source `Script.full`):
    the position is the head, and the task's rows are EXACTLY the specified rows of blocks `start..head`,
    block by block in order.  (That `Insert` produces these rows for a batch whose rows are `Fixed` is the
    separate theorem `insert_batch_flat`; it is not a hypothesis or conclusion here.) -/
theorem system_table_exact (t : Task) (refs : Refs) (d : Decl) (ty : Ty) (mode : Mode) (base : Ctx)
    (key pay : List DVal → String) (sbs : List SBlock) (db : DB)
    (hc : (chainOf refs d ty mode base key pay sbs).WF) (hstart : 0 < t.start) (hb : 1 ≤ t.batch)
    (hcc : 1 ≤ t.conc) (hcb : t.conc * t.batch < 2 ^ 63)
    (hhead : (chainOf refs d ty mode base key pay sbs).head < 2 ^ 62) (hdeps : t.deps = [])
    (hinv : Inv t (chainOf refs d ty mode base key pay sbs) (t.start - 1) db)
    (hk : KeysOK t (chainOf refs d ty mode base key pay sbs) db) (hstop : t.stop = 0)
    (hsh : t.start - 1 ≤ (chainOf refs d ty mode base key pay sbs).head)
    (m : Nat)
    (hm : (chainOf refs d ty mode base key pay sbs).head -
      (topOf (db.cur.filter (mineC t))).getD (t.start - 1) ≤ m) :
    let c := chainOf refs d ty mode base key pay sbs
    let db' := run t c m db
    (topOf (db'.cur.filter (mineC t))).getD (t.start - 1) = c.head ∧
    db'.rows.filter (mine t) =
      ((sbs.drop t.start).take (c.head - (t.start - 1))).flatMap (tableRows t refs d ty mode base key pay) := by
  intro c db'
  obtain ⟨_, _, h3, h4⟩ := reaches_head t c db hc hstart hb hcc hcb hhead hdeps hinv hk hstop hsh m hm
  exact ⟨h3, by rw [h4]; exact slice_chainOf t refs d ty mode base key pay sbs _ _⟩

/-- **system_after_reorg** (C03 end to end).  `sbs` is the NEW canonical chain; the database holds
    positions and rows written on the old one: recorded positions up to `g` are blocks of the new chain
    (the fork is above `g`), the positions above `g` (at most 1000) are orphaned, the rows up to `g` are the
    specified rows of the new chain's blocks (they are common to both).  After the unwinding step and
    `head − (start − 1)` or more healthy steps: the position is the new head, and the table is EXACTLY the
    specified rows of the new chain's blocks `start..head` — the rows of the common blocks untouched,
    the orphaned rows gone, the rows of the replacing blocks present once. -/
theorem system_after_reorg (t : Task) (refs : Refs) (d : Decl) (ty : Ty) (mode : Mode) (base : Ctx)
    (key pay : List DVal → String) (sbs : List SBlock) (db : DB) (sc : Script) (g : Cur)
    (hc : (chainOf refs d ty mode base key pay sbs).WF)
    (hsc : ScriptOK (chainOf refs d ty mode base key pay sbs) sc) (hstart : 0 < t.start) (hb : 1 ≤ t.batch)
    (hcc : 1 ≤ t.conc) (hcb : t.conc * t.batch < 2 ^ 63)
    (hhead : (chainOf refs d ty mode base key pay sbs).head < 2 ^ 62) (hdeps : t.deps = []) (hstop : t.stop = 0)
    (hnodup : ((db.cur.filter (mineC t)).map (·.num)).Nodup)
    (hg : g ∈ db.cur.filter (mineC t))
    (hbelow : ∀ x ∈ db.cur.filter (mineC t), x.num ≤ g.num →
      t.start - 1 < x.num ∧ x.num ≤ (chainOf refs d ty mode base key pay sbs).head ∧
        x.hash = (chainOf refs d ty mode base key pay sbs).hashAt x.num)
    (habove : ∀ x ∈ db.cur.filter (mineC t), g.num < x.num →
      x.hash ≠ (chainOf refs d ty mode base key pay sbs).hashAt x.num)
    (hcount : ((db.cur.filter (mineC t)).filter fun x => g.num < x.num).length ≤ 1000)
    (hrows : (db.rows.filter fun r => mine t r && decide (r.blk ≤ g.num)) =
      ((chainOf refs d ty mode base key pay sbs).slice t.start (g.num - (t.start - 1))).flatMap (rowsFor t))
    (hk : KeysOK t (chainOf refs d ty mode base key pay sbs)
      { db with rows := db.rows.filter fun r => !(mine t r && decide (g.num < r.blk)) })
    (hnone : (∀ x ∈ db.cur.filter (mineC t), x.num ≤ g.num) → ∀ r ∈ db.rows, mine t r = true → r.blk ≤ g.num)
    (hgrow : ∀ x ∈ db.cur.filter (mineC t), x.num < (chainOf refs d ty mode base key pay sbs).head)
    (hhonest : (∀ a ∈ sc.latest, a = some ((chainOf refs d ty mode base key pay sbs).head,
        (chainOf refs d ty mode base key pay sbs).hashAt (chainOf refs d ty mode base key pay sbs).head)) ∧
      (∀ p ∈ sc.hash, p.2 ≠ none) ∧ (∀ q ∈ sc.gets, q.2 ≠ none))
    (hok : (converge t db sc none).scriptOk = true)
    (m : Nat) (hm : (chainOf refs d ty mode base key pay sbs).head - (t.start - 1) ≤ m) :
    let c := chainOf refs d ty mode base key pay sbs
    let db' := run t c m (converge t db sc none).db
    (topOf (db'.cur.filter (mineC t))).getD (t.start - 1) = c.head ∧
    db'.rows.filter (mine t) =
      ((sbs.drop t.start).take (c.head - (t.start - 1))).flatMap (tableRows t refs d ty mode base key pay) ∧
    db'.rows.filter (mine t) =
      (db.rows.filter fun r => mine t r && decide (r.blk ≤ g.num)) ++
        ((sbs.drop (g.num + 1)).take (c.head - g.num)).flatMap (tableRows t refs d ty mode base key pay) := by
  intro c db'
  obtain ⟨_, _, h3, h4, h5⟩ := converges_after_reorg t c db sc g hc hsc hstart hb hcc hcb hhead hdeps hstop hnodup hg
    hbelow habove hcount hrows hk hnone hgrow hhonest hok m hm
  refine ⟨h3, ?_, ?_⟩
  · rw [h4]; exact slice_chainOf t refs d ty mode base key pay sbs _ _
  · rw [h5, slice_chainOf]

/-- **system_stopped_at_stop** (C06 end to end): with a stop configured within the chain, after enough healthy
    steps the position is exactly the stop, the table is exactly the specified rows of blocks `start..stop`,
    and from then on every step — whatever the source answers — reports done and changes nothing -/
theorem system_stopped_at_stop (t : Task) (refs : Refs) (d : Decl) (ty : Ty) (mode : Mode) (base : Ctx)
    (key pay : List DVal → String) (sbs : List SBlock) (db : DB)
    (hc : (chainOf refs d ty mode base key pay sbs).WF) (hstart : 0 < t.start) (hb : 1 ≤ t.batch)
    (hcc : 1 ≤ t.conc) (hcb : t.conc * t.batch < 2 ^ 63)
    (hhead : (chainOf refs d ty mode base key pay sbs).head < 2 ^ 62) (hdeps : t.deps = [])
    (hinv : Inv t (chainOf refs d ty mode base key pay sbs) (t.start - 1) db)
    (hk : KeysOK t (chainOf refs d ty mode base key pay sbs) db)
    (hstop : 0 < t.stop) (hsh : t.stop ≤ (chainOf refs d ty mode base key pay sbs).head) (hss : t.start ≤ t.stop)
    (htop : (topOf (db.cur.filter (mineC t))).getD (t.start - 1) ≤ t.stop)
    (m : Nat) (hm : t.stop - (topOf (db.cur.filter (mineC t))).getD (t.start - 1) ≤ m) :
    let c := chainOf refs d ty mode base key pay sbs
    let db' := run t c m db
    (topOf (db'.cur.filter (mineC t))).getD (t.start - 1) = t.stop ∧
    db'.rows.filter (mine t) =
      ((sbs.drop t.start).take (t.stop - (t.start - 1))).flatMap (tableRows t refs d ty mode base key pay) ∧
    (∀ sc, (converge t db' sc none).outcome = .done ∧ (converge t db' sc none).db = db') := by
  intro c db'
  obtain ⟨_, h2, h3, h4, _⟩ := stopped_at_stop t c db hc hstart hb hcc hcb hhead hdeps hinv hk hstop hsh hss htop m hm
  exact ⟨h2, by rw [h3]; exact slice_chainOf t refs d ty mode base key pay sbs _ _, h4⟩

/-- **system_despite_faults** (C01 / C02 end to end): any finite period of steps with arbitrary honest-or-failed
    source answers and database faults, then enough healthy steps: the position is the head and the table is
    exactly the specified rows of blocks `start..head` -/
theorem system_despite_faults (t : Task) (refs : Refs) (d : Decl) (ty : Ty) (mode : Mode) (base : Ctx)
    (key pay : List DVal → String) (sbs : List SBlock) (steps : List (Script × Option Pos)) (db : DB)
    (hc : (chainOf refs d ty mode base key pay sbs).WF) (hstart : 0 < t.start) (hb : 1 ≤ t.batch)
    (hcc : 1 ≤ t.conc) (hcb : t.conc * t.batch < 2 ^ 63)
    (hhead : (chainOf refs d ty mode base key pay sbs).head < 2 ^ 62) (hdeps : t.deps = [])
    (hinv : Inv t (chainOf refs d ty mode base key pay sbs) (t.start - 1) db)
    (hk : KeysOK t (chainOf refs d ty mode base key pay sbs) db)
    (hall : AllOK (chainOf refs d ty mode base key pay sbs) steps) (hstop : t.stop = 0)
    (hsh : t.start - 1 ≤ (chainOf refs d ty mode base key pay sbs).head)
    (m : Nat) (hm : (chainOf refs d ty mode base key pay sbs).head - (t.start - 1) ≤ m) :
    let c := chainOf refs d ty mode base key pay sbs
    let db' := run t c m (troubled t steps db)
    (topOf (db'.cur.filter (mineC t))).getD (t.start - 1) = c.head ∧
    db'.rows.filter (mine t) =
      ((sbs.drop t.start).take (c.head - (t.start - 1))).flatMap (tableRows t refs d ty mode base key pay) := by
  intro c db'
  obtain ⟨_, _, h3, h4⟩ := converges_despite_faults t c steps db hc hstart hb hcc hcb hhead hdeps hinv hk hall hstop hsh m hm
  exact ⟨h3, by rw [h4]; exact slice_chainOf t refs d ty mode base key pay sbs _ _⟩

/-! a three-block chain carrying ERC-20 transfers, indexed by the `Transfer` declaration -/

namespace Example
open Shovel.World.Ex Shovel.Row.Example Shovel.Insert.Example

/-- decimal digits by structural recursion on fuel (reduces in the kernel, unlike `Nat.repr`) -/
def digitsF : Nat → Nat → List Char
  | 0, _ => []
  | f + 1, n => if n < 10 then [Char.ofNat (48 + n)] else digitsF f (n / 10) ++ [Char.ofNat (48 + n % 10)]
def natStr (n : Nat) : String := String.ofList (digitsF 80 n)

def showD : DVal → String
  | .bytes b => "x" ++ hexOfBytes b
  | .str b => "s" ++ hexOfBytes b
  | .u64 n => natStr n | .u256 n => natStr n | .neg n => natStr n.toNat
  | .bool b => if b then "t" else "f" | .byte n => natStr n | .int n => natStr n | .null => "nil"

/-- payload: every cell; unique key: here the whole row as well (the rows carry block/tx/log indices) -/
def pay (r : List DVal) : String := ",".intercalate (r.map showD)

/-- the declaration with the identity fields `block_num`, `tx_idx`, `log_idx` selected too -/
def transferId : Decl := { transfer with block := transfer.block ++ [("block_num", {}), ("tx_idx", {}), ("log_idx", {})] }

def chain3 : List SBlock :=
  [ { num := 0, hash := hx '0', parent := hx 'f', ab := { fields := [("block_num", .u64 0)], txs := [] } },
    { num := 1, hash := hx '1', parent := hx '0', ab := { batch.getD 0 ⟨[], []⟩ with fields := [("block_num", .u64 1)] } },
    { num := 2, hash := hx '2', parent := hx '1', ab := { batch.getD 1 ⟨[], []⟩ with fields := [("block_num", .u64 2)] } } ]

def task : Task := { src := "s", ig := "i", table := "transfers", start := 1, stop := 0, batch := 2, conc := 2, deps := [] }

theorem chain3_wf : (chainOf [] transferId ty .log [] pay pay chain3).WF :=
  Chain.wfb_sound _ (by simp [chainOf, chain3, toBlk, hx_length]) (by decide +kernel)

/-- every hypothesis of `system_table_exact` holds of the example: after two steps the table holds
    exactly the two specified rows (the transfer of the other token and the decoy log yield nothing) -/
example :
    let c := chainOf [] transferId ty .log [] pay pay chain3
    let db' := run task c 2 {}
    (topOf (db'.cur.filter (mineC task))).getD (task.start - 1) = c.head ∧
    db'.rows.filter (mine task) =
      ((chain3.drop task.start).take (c.head - (task.start - 1))).flatMap (tableRows task [] transferId ty .log [] pay pay) :=
  system_table_exact task [] transferId ty .log [] pay pay chain3 {}
    chain3_wf (by decide) (by decide) (by decide) (by decide) (by decide +kernel) rfl
    (by decide +kernel) (by decide +kernel) rfl (by decide +kernel) 2 (by decide +kernel)

example : ((chain3.drop 1).take 2).flatMap (tableRows task [] transferId ty .log [] pay pay) =
    [ { table := "transfers", src := "s", ig := "i", blk := 1,
        key := "x00000000000000000000000000000000000000bb,1000,xa0b86991c6218b36c1d19d4a2e9eb0ce3606eb48,0,1,0,0",
        pay := "x00000000000000000000000000000000000000bb,1000,xa0b86991c6218b36c1d19d4a2e9eb0ce3606eb48,0,1,0,0" },
      { table := "transfers", src := "s", ig := "i", blk := 2,
        key := "x00000000000000000000000000000000000000aa,1000,xa0b86991c6218b36c1d19d4a2e9eb0ce3606eb48,0,2,3,0",
        pay := "x00000000000000000000000000000000000000aa,1000,xa0b86991c6218b36c1d19d4a2e9eb0ce3606eb48,0,2,3,0" } ] := by
  decide +kernel

/-- `system_stopped_at_stop`: the same task with stop 1 on the three-block chain -/
example :
    let t := { task with stop := 1 }
    let c := chainOf [] transferId ty .log [] pay pay chain3
    let db' := run t c 1 {}
    (topOf (db'.cur.filter (mineC t))).getD (t.start - 1) = 1 ∧
    db'.rows.filter (mine t) = ((chain3.drop 1).take 1).flatMap (tableRows t [] transferId ty .log [] pay pay) ∧
    (∀ sc, (converge t db' sc none).outcome = .done ∧ (converge t db' sc none).db = db') :=
  system_stopped_at_stop { task with stop := 1 } [] transferId ty .log [] pay pay chain3 {}
    chain3_wf (by decide) (by decide) (by decide) (by decide) (by decide +kernel) rfl
    (by decide +kernel) (by decide +kernel) (by decide) (by decide +kernel) (by decide) (by decide +kernel) 1 (by decide +kernel)

/-- `system_despite_faults`: the process dies at the second commit, then the connection drops at the insert,
    then two healthy steps -/
def periodS : List (Script × Option Pos) :=
  [(Script.full (chainOf [] transferId ty .log [] pay pay chain3) task 0, some .commit2),
   (Script.full (chainOf [] transferId ty .log [] pay pay chain3) task 0, some .insert)]

example :
    let c := chainOf [] transferId ty .log [] pay pay chain3
    let db' := run task c 2 (troubled task periodS {})
    (topOf (db'.cur.filter (mineC task))).getD (task.start - 1) = c.head ∧
    db'.rows.filter (mine task) =
      ((chain3.drop task.start).take (c.head - (task.start - 1))).flatMap (tableRows task [] transferId ty .log [] pay pay) :=
  system_despite_faults task [] transferId ty .log [] pay pay chain3 periodS {}
    chain3_wf (by decide) (by decide) (by decide) (by decide) (by decide +kernel) rfl
    (by decide +kernel) (by decide +kernel)
    (by intro p hp
        simp only [periodS, List.mem_cons, List.not_mem_nil, or_false] at hp
        rcases hp with rfl | rfl <;> exact Script.full_scriptOK _ task 0 (by decide +kernel))
    rfl (by decide +kernel) 2 (by decide +kernel)

/-! the reorg theorem: chain of four blocks (the fourth empty), recorded positions 1 (canonical) and 2 (orphaned,
    another hash), the row of block 1 and an orphaned row of block 2 -/

def chain4 : List SBlock := chain3 ++ [{ num := 3, hash := hx '3', parent := hx '2', ab := { fields := [("block_num", .u64 3)], txs := [] } }]

def c4 : Chain := chainOf [] transferId ty .log [] pay pay chain4

def dbReorg : DB :=
  { cur := [{ src := "s", ig := "i", num := 1, hash := hx '1' }, { src := "s", ig := "i", num := 2, hash := hx 'e' }],
    rows := (tableRows task [] transferId ty .log [] pay pay (chain4.getD 1 ⟨0, "", "", ⟨[], []⟩⟩)) ++
      [{ table := "transfers", src := "s", ig := "i", blk := 2, key := "orphan", pay := "orphan" }] }

def scReorg : Script :=
  { latest := [some (3, c4.hashAt 3), some (3, c4.hashAt 3)], hash := [],
    gets := [((3, 1), some (c4.slice 3 1)), ((2, 1), some (c4.slice 2 1)), ((3, 1), some (c4.slice 3 1))] }

theorem c4_wf : c4.WF :=
  Chain.wfb_sound _ (by simp [c4, chainOf, chain4, chain3, toBlk, hx_length]) (by decide +kernel)

theorem scReorg_ok : ScriptOK c4 scReorg := scriptOKb_sound _ _ (by decide +kernel)

/-- every hypothesis of `system_after_reorg` holds of the example; the conclusion: position 3, the table is the
    row of block 1 (untouched) and the specified row of the NEW block 2 — the orphaned row is gone -/
example :
    let db' := run task c4 3 (converge task dbReorg scReorg none).db
    (topOf (db'.cur.filter (mineC task))).getD (task.start - 1) = c4.head ∧
    db'.rows.filter (mine task) =
      ((chain4.drop task.start).take (c4.head - (task.start - 1))).flatMap (tableRows task [] transferId ty .log [] pay pay) ∧
    db'.rows.filter (mine task) =
      (dbReorg.rows.filter fun r => mine task r && decide (r.blk ≤ 1)) ++
        ((chain4.drop 2).take (c4.head - 1)).flatMap (tableRows task [] transferId ty .log [] pay pay) :=
  system_after_reorg task [] transferId ty .log [] pay pay chain4 dbReorg scReorg
    { src := "s", ig := "i", num := 1, hash := hx '1' }
    c4_wf scReorg_ok (by decide) (by decide) (by decide) (by decide)
    (by decide +kernel) rfl rfl (by decide +kernel) (by decide +kernel) (by decide +kernel) (by decide +kernel)
    (by decide +kernel) (by decide +kernel) (by decide +kernel) (by decide +kernel) (by decide +kernel)
    (by decide +kernel) (by rw [converge_eq_NL (scReorg_ok.len64 c4_wf)]; decide +kernel) 3 (by decide +kernel)

example : (run task c4 3 (converge task dbReorg scReorg none).db).rows.map (·.blk) = [1, 2] ∧
    (run task c4 3 (converge task dbReorg scReorg none).db).rows.all (·.key != "orphan") := by
  simp only [run, step_eq_NL c4_wf, converge_eq_NL (scReorg_ok.len64 c4_wf)]; decide +kernel

end Example

end Shovel.System

#print axioms Shovel.System.insert_batch_flat
#print axioms Shovel.System.system_table_exact
#print axioms Shovel.System.system_after_reorg
#print axioms Shovel.System.system_stopped_at_stop
#print axioms Shovel.System.system_despite_faults
#print axioms Shovel.System.insert_single_call
#print axioms Shovel.System.insertChunks_cover
