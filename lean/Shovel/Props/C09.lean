import Shovel.Proofs.AbiFinal
/-
  C09 — `scan_encode`, about `resultScan` (dig.go `Result.Scan` / `scan`); the parser part
  (`parse_correct`) is in Props/C13.
-/
namespace Shovel.Abi

mutual
/-- = `Ty.sels` (`Ty.selList_eq_sels`); restated so that the statement uses no definition of
    Proofs/ -/
def Ty.selList : Ty → List Nat
  | .stat s => s.toList
  | .dyn s => s.toList
  | .arr _ e => e.selList
  | .tup fs => fs.selList
def Tys.selList : Tys → List Nat
  | .nil => []
  | .cons t ts => t.selList ++ ts.selList
end

def cellBytes (b : Buf) (c : Option (Nat × Nat)) : Option (List Nat) :=
  c.map fun (lo, hi) => (b.data.take hi).drop lo

def rowsBytes (b : Buf) (s : St) : List (List (Option (List Nat))) :=
  s.rows.map fun row => row.map (cellBytes b)

mutual
theorem Ty.selList_eq_sels : (t : Ty) → t.selList = t.sels
  | .stat _ => rfl
  | .dyn _ => rfl
  | .arr _ e => by rw [Ty.selList, Ty.sels]; exact Ty.selList_eq_sels e
  | .tup fs => by rw [Ty.selList, Ty.sels]; exact Tys.selList_eq_sels fs
theorem Tys.selList_eq_sels : (fs : Tys) → fs.selList = fs.sels
  | .nil => rfl
  | .cons t ts => by rw [Tys.selList, Tys.sels, Ty.selList_eq_sels t, Tys.selList_eq_sels ts]
end

/-- **scan_encode** (C09, C11): for every type tree in the declaration domain whose selected leaves
    are numbered 0..n-1 in declaration order (assumed: no theorem derives it from `parse_correct`),
    every well-typed value, every trailing byte string `rest`, every capacity, and every previous
    state of the (reused) decoder: decoding the standard ABI encoding yields exactly the rows of the
    row rule. -/
theorem scan_encode (t : Ty) (v : Val) (rest : List Nat) (cap : Nat) (s : St)
    (hdom : t.inDomain = true) (hsel : t.selList = List.range t.nsel)
    (hwt : WellTyped t v = true)
    (hsize : (enc t v ++ rest).length < 2 ^ 63) (hcap : (enc t v ++ rest).length ≤ cap)
    (hs : s.ncols = t.nsel ∧ s.single.length = t.nsel ∧ (∀ row ∈ s.coll, row.length = t.nsel) ∧ s.n ≤ s.coll.length) :
    ∃ s', resultScan ⟨enc t v ++ rest, cap⟩ t s = .ok s' ∧
          rowsBytes ⟨enc t v ++ rest, cap⟩ s' = rowsOf t v := by
  rw [Ty.selList_eq_sels] at hsel
  obtain ⟨s', h1, h2, _⟩ := scan_encode_core_wf t v rest cap s hdom hsel hwt hsize hcap hs
  exact ⟨s', h1, h2⟩

/-- **scan_encode_newResult** (C09): the state hypothesis of `scan_encode` is satisfiable, a fresh
    `NewResult(t)` meets it -/
theorem scan_encode_newResult (t : Ty) (v : Val) (rest : List Nat) (cap : Nat)
    (hdom : t.inDomain = true) (hsel : t.selList = List.range t.nsel)
    (hwt : WellTyped t v = true)
    (hsize : (enc t v ++ rest).length < 2 ^ 63) (hcap : (enc t v ++ rest).length ≤ cap) :
    ∃ s', resultScan ⟨enc t v ++ rest, cap⟩ t (newResult t) = .ok s' ∧
          rowsBytes ⟨enc t v ++ rest, cap⟩ s' = rowsOf t v :=
  scan_encode t v rest cap (newResult t) hdom hsel hwt hsize hcap
    ⟨rfl, by simp [newResult, emptyRow], by simp [newResult], Nat.le_refl _⟩

end Shovel.Abi

#print axioms Shovel.Abi.scan_encode
#print axioms Shovel.Abi.scan_encode_newResult
