import Shovel.Gen.Routes
/-
  C20, tie of the protocol theorem's ordering hypothesis to the source: restarts are requested
  through the dashboard only, and the dashboard is served after the manager's first Run has
  reported (regenerated from cmd/shovel/main.go) — so `main`'s Run takes the lock before the first
  Restart, which is the hypothesis of `restart_complete_main_first`. Also from `main`: the configuration
  decoded from the file reaches the manager unchanged (C20, C05).
-/
namespace Shovel.Manager

theorem serve_after_first_run : Shovel.Gen.Routes.serveAfterFirstRun = true := rfl

/-- **file_config_reaches_manager_unchanged** (C05, C20): in `main` the configuration decoded from the file is
    validated (`ValidateFix`), read (`PGURL`, `DDL`, `Migrate`) and handed to `NewManager` and `web.New` — and
    nothing else: no statement assigns to it or to a field of it between the decoder and the manager. So the
    file arguments of the model's `mergeIg` / `mergeSrc` ARE the validated file — disabled entries included, which is what lets
    a disabled file entry shadow an enabled database row of the same name (`merge_precedence`). -/
theorem file_config_reaches_manager_unchanged :
    Shovel.Gen.Routes.mainConfUses =
      ["call: json.NewDecoder(f).Decode(&conf)", "call: config.ValidateFix(&conf)", "call: wos.Getenv(conf.PGURL)",
       "call: config.DDL(conf)", "call: config.Migrate(ctx, dbtx, conf)", "call: shovel.NewManager(ctx, pg, conf)",
       "call: web.New(mgr, &conf, pg)"] := rfl

end Shovel.Manager
