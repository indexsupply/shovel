import Shovel.Props.C18
/-
  C08 — tie of the cache model's atomicity assumptions to the source (regenerated lock skeleton):
  the read budget is enforced in `cache.pruneMaxRead`, which WAITS for each segment's lock (an
  unconditional `v.Lock()`, not a `TryLock` that skips a segment whose fetch is in flight) before it
  looks at the segment's read counter and drops the segment; and inside `cache.get` the accesses to
  the segment map hold the cache lock, those to a segment's counter, data and done flag the
  segment's lock (`Cache.lookupStep` / `Cache.readStep` model these two critical sections).  Calls
  are not events of the skeleton: that `get` calls the two prunes under the cache lock is read off
  the source, not stated here (`pruneSegments` itself takes no lock).
-/
namespace Shovel.Cache
open Shovel.Gen.Locks Shovel.Race

theorem prune_waits :
    ((match events.find? (·.1 == "jrpc2.cache.pruneMaxRead") with
      | some e => e.2.head? == some (.lock "v") && e.2.contains (.unlock "v")
      | none => false) &&
     guarded "jrpc2.cache.pruneMaxRead" ["c.segments[]"] "v" &&
     guarded "jrpc2.cache.get" ["c.segments"] "c" &&
     guarded "jrpc2.cache.get" ["seg.nreads", "seg.d", "seg.done"] "seg") = true := by
  -- the two facts about `cache.get` are `discipline_cache`
  have h := Bool.and_eq_true_iff.mp discipline_cache
  rw [h.1, h.2]
  decide +kernel

end Shovel.Cache
