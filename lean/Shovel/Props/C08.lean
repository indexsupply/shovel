import Shovel.Model.Cache
/-
  C08 — caches are transparent: same data, bounded reuse, no cached errors; a reported head is
  always a pair the source announced.
-/
namespace Shovel.Cache

/-- the source's answer for a range on an unchanging chain -/
abbrev Truth := Nat × Nat → Nat

/-- a completed segment holds the source's answer for its range; a map entry points at a live
    segment of its key -/
def Inv (truth : Truth) (c : Cache) : Prop :=
  (∀ s ∈ c.store, s.done = true → s.data = truth s.key) ∧
  (∀ e ∈ c.map, e.2 < c.store.length ∧ (c.seg e.2).key = e.1)

theorem seg_eq (c : Cache) (id : Nat) : c.seg id = c.store[id]?.getD { key := (0, 0) } := by
  simp [Cache.seg, List.getD_eq_getElem?_getD]

theorem seg_congr {c c' : Cache} (h : c'.store = c.store) (id : Nat) : c'.seg id = c.seg id := by
  simp [Cache.seg, h]

theorem seg_mem {c : Cache} {id : Nat} (h : id < c.store.length) : c.seg id ∈ c.store := by
  rw [seg_eq, List.getElem?_eq_getElem h]
  exact List.getElem_mem h

theorem seg_mem_or_default (c : Cache) (id : Nat) :
    c.seg id ∈ c.store ∨ c.seg id = { key := (0, 0) } := by
  by_cases h : id < c.store.length
  · exact .inl (seg_mem h)
  · exact .inr (by rw [seg_eq, List.getElem?_eq_none (Nat.le_of_not_lt h)]; rfl)

theorem seg_set (c : Cache) (id j : Nat) (s : Seg) :
    ({ c with store := c.store.set id s } : Cache).seg j =
      if j = id ∧ id < c.store.length then s else c.seg j := by
  simp only [seg_eq]
  by_cases h : j = id
  · subst h
    by_cases hl : j < c.store.length
    · simp [hl]
    · simp [hl]
  · simp [h, List.getElem?_set_ne (Ne.symm h)]

@[simp] theorem pruneMaxRead_store (c : Cache) : c.pruneMaxRead.store = c.store := rfl
@[simp] theorem pruneMaxRead_maxreads (c : Cache) : c.pruneMaxRead.maxreads = c.maxreads := rfl

theorem mem_pruneMaxRead {c : Cache} {e : (Nat × Nat) × Nat} :
    e ∈ c.pruneMaxRead.map ↔ e ∈ c.map ∧ (c.seg e.2).nreads < c.maxreads := by
  simp [Cache.pruneMaxRead, List.mem_filter]

@[simp] theorem pruneSegments_store (c : Cache) : c.pruneSegments.store = c.store := by
  fun_cases Cache.pruneSegments c <;> rfl

@[simp] theorem pruneSegments_maxreads (c : Cache) : c.pruneSegments.maxreads = c.maxreads := by
  fun_cases Cache.pruneSegments c <;> rfl

theorem mem_pruneSegments {c : Cache} {e : (Nat × Nat) × Nat} (h : e ∈ c.pruneSegments.map) :
    e ∈ c.map := by
  revert h
  fun_cases Cache.pruneSegments c with
  | case1 => exact id
  | case2 => exact fun h => (List.mem_filter.1 h).1

@[simp] theorem seg_pruneMaxRead (c : Cache) (id : Nat) : c.pruneMaxRead.seg id = c.seg id := rfl

@[simp] theorem seg_pruneSegments (c : Cache) (id : Nat) : c.pruneSegments.seg id = c.seg id :=
  seg_congr (pruneSegments_store c) id

theorem Inv.shrink {truth : Truth} {c c' : Cache} (h : Inv truth c) (hs : c'.store = c.store)
    (hm : ∀ e ∈ c'.map, e ∈ c.map) : Inv truth c' :=
  ⟨hs ▸ h.1, fun e he => by rw [hs, seg_congr hs]; exact h.2 e (hm e he)⟩

theorem lookupStep_found {c : Cache} {key : Nat × Nat} {e : (Nat × Nat) × Nat}
    (hf : c.pruneMaxRead.map.find? (·.1 == key) = some e) :
    c.lookupStep key = (c.pruneMaxRead.pruneSegments, e.2) := by
  simp only [Cache.lookupStep, hf]

/-- the cache after a lookup that found no entry, before `pruneSegments` -/
def Cache.withNew (c : Cache) (key : Nat × Nat) : Cache :=
  { c.pruneMaxRead with store := c.store ++ [({ key := key } : Seg)],
                        map := c.pruneMaxRead.map ++ [(key, c.store.length)] }

theorem seg_withNew_lt {c : Cache} (key : Nat × Nat) {id : Nat} (h : id < c.store.length) :
    (c.withNew key).seg id = c.seg id := by
  rw [seg_eq, seg_eq, Cache.withNew, List.getElem?_append_left h]

theorem seg_withNew_new (c : Cache) (key : Nat × Nat) :
    (c.withNew key).seg c.store.length = { key := key } := by
  simp [seg_eq, Cache.withNew]

theorem lookupStep_new {c : Cache} {key : Nat × Nat}
    (hf : c.pruneMaxRead.map.find? (·.1 == key) = none) :
    c.lookupStep key = ((c.withNew key).pruneSegments, c.store.length) := by
  simp only [Cache.lookupStep, hf]
  rfl

/-- one read of a segment, on its own: `readStep` does this to segment `id` and nothing else -/
def Seg.read (s : Seg) (fetch : Option Nat) : Seg × Out :=
  if s.done then ({ s with nreads := s.nreads + 1 }, .hit s.data)
  else match fetch with
    | none => ({ s with nreads := s.nreads + 1 }, .err)
    | some d => ({ s with nreads := s.nreads + 1, done := true, data := d }, .fetched d)

theorem readStep_eq (c : Cache) (id : Nat) (fetch : Option Nat) :
    c.readStep id fetch =
      ({ c with store := c.store.set id ((c.seg id).read fetch).1 }, ((c.seg id).read fetch).2) := by
  unfold Cache.readStep Seg.read
  cases hd : (c.seg id).done <;> cases fetch <;> simp [hd]

@[simp] theorem Seg.read_key (s : Seg) (fetch : Option Nat) : (s.read fetch).1.key = s.key := by
  fun_cases Seg.read s fetch <;> rfl

@[simp] theorem Seg.read_nreads (s : Seg) (fetch : Option Nat) :
    (s.read fetch).1.nreads = s.nreads + 1 := by
  fun_cases Seg.read s fetch <;> rfl

/-- **lookup_inv** (C08): under the cache lock the invariant is preserved, the
    handle handed out is a live store index whose segment has the requested key, and no handle
    held by another caller is disturbed. -/
theorem lookup_inv (truth : Truth) (c : Cache) (key : Nat × Nat) (h : Inv truth c) :
    Inv truth (c.lookupStep key).1 ∧
    (c.lookupStep key).2 < (c.lookupStep key).1.store.length ∧
    ((c.lookupStep key).1.seg (c.lookupStep key).2).key = key ∧
    c.store.length ≤ (c.lookupStep key).1.store.length ∧
    (∀ id, id < c.store.length → ((c.lookupStep key).1.seg id) = c.seg id) := by
  cases hf : c.pruneMaxRead.map.find? (·.1 == key) with
  | some e =>
    have he := h.2 e (mem_pruneMaxRead.1 (List.mem_of_find?_eq_some hf)).1
    have hk : e.1 = key := by simpa using List.find?_some hf
    have h1 : Inv truth c.pruneMaxRead := h.shrink rfl fun _ he' => (mem_pruneMaxRead.1 he').1
    rw [lookupStep_found hf]
    dsimp only
    exact ⟨h1.shrink (by simp) fun _ => mem_pruneSegments, by simpa using he.1, by simpa [hk] using he.2, by simp,
      fun id _ => by simp⟩
  | none =>
    rw [lookupStep_new hf]
    have hst : (c.withNew key).store = c.store ++ [({ key := key } : Seg)] := rfl
    have hinv : Inv truth (c.withNew key) := by
      refine ⟨fun s hsm hd => ?_, fun e' he' => ?_⟩
      · rcases List.mem_append.1 hsm with h1 | h1
        · exact h.1 s h1 hd
        · rw [List.mem_singleton] at h1; subst h1; simp at hd
      · rcases List.mem_append.1 he' with h1 | h1
        · have := h.2 e' (mem_pruneMaxRead.1 h1).1
          rw [seg_withNew_lt key this.1, hst, List.length_append]
          exact ⟨Nat.lt_add_right _ this.1, this.2⟩
        · rw [List.mem_singleton] at h1; subst h1
          exact ⟨by simp [hst], by rw [seg_withNew_new]⟩
    dsimp only
    exact ⟨hinv.shrink (by simp) fun _ => mem_pruneSegments, by simp [hst],
      by rw [seg_pruneSegments, seg_withNew_new], by simp [hst],
      fun id hlt => by rw [seg_pruneSegments, seg_withNew_lt key hlt]⟩

/-- **read_inv** (C08): under the segment lock, with a source that may fail but
    never lies, the invariant is preserved, only segment `id` changes (keeping its key), and a read
    that returns data returns the source's data for the segment's range; `.err` is only reported
    when this very fetch failed. -/
theorem read_inv (truth : Truth) (c : Cache) (id : Nat) (fetch : Option Nat) (h : Inv truth c)
    (hid : id < c.store.length) (hf : fetch = none ∨ fetch = some (truth (c.seg id).key)) :
    Inv truth (c.readStep id fetch).1 ∧
    (c.readStep id fetch).1.store.length = c.store.length ∧
    (∀ j, j ≠ id → (c.readStep id fetch).1.seg j = c.seg j) ∧
    ((c.readStep id fetch).1.seg id).key = (c.seg id).key ∧
    (match (c.readStep id fetch).2 with
     | .hit d => d = truth (c.seg id).key
     | .fetched d => d = truth (c.seg id).key
     | .err => fetch = none) := by
  obtain ⟨hs, hm⟩ := h
  rw [readStep_eq]
  have hold : (c.seg id).done = true → (c.seg id).data = truth (c.seg id).key := hs _ (seg_mem hid)
  obtain ⟨hgood, hout⟩ : (((c.seg id).read fetch).1.done = true →
        ((c.seg id).read fetch).1.data = truth (c.seg id).key) ∧
      (match ((c.seg id).read fetch).2 with
       | .hit d => d = truth (c.seg id).key
       | .fetched d => d = truth (c.seg id).key
       | .err => fetch = none) := by
    unfold Seg.read
    cases hd : (c.seg id).done with
    | true => exact ⟨fun _ => hold hd, hold hd⟩
    | false =>
      rcases hf with rfl | rfl
      · exact ⟨nofun, rfl⟩
      · exact ⟨fun _ => rfl, rfl⟩
  refine ⟨⟨fun s hsm hd => ?_, fun e he => ?_⟩, by simp,
    fun j hj => by rw [seg_set, if_neg fun h => hj h.1],
    by rw [seg_set, if_pos ⟨rfl, hid⟩, Seg.read_key], hout⟩
  · rcases List.mem_or_eq_of_mem_set hsm with h1 | h1
    · exact hs s h1 hd
    · subst h1; rw [Seg.read_key]; exact hgood hd
  · refine ⟨by simpa using (hm e he).1, ?_⟩
    by_cases hj : e.2 = id
    · rw [hj, seg_set, if_pos ⟨rfl, hid⟩, Seg.read_key, ← hj]; exact (hm e he).2
    · rw [seg_set, if_neg fun h => hj h.1]; exact (hm e he).2

/-- **no_cached_error** (C08): a failed fetch is reported and leaves the segment not done, so the
    next reader of that segment asks the source again. -/
theorem no_cached_error (c : Cache) (id : Nat) (hnd : (c.seg id).done = false)
    (hid : id < c.store.length) :
    (c.readStep id none).2 = .err ∧ ((c.readStep id none).1.seg id).done = false := by
  rw [readStep_eq, seg_set, if_pos ⟨rfl, hid⟩]
  simp [Seg.read, hnd]

/-- **not_done_refetches** (C08): complement of `no_cached_error`; a segment that is not done is
    *always* re-fetched, and the outcome is determined by this fetch alone. -/
theorem not_done_refetches (c : Cache) (id : Nat) (fetch : Option Nat)
    (hnd : (c.seg id).done = false) :
    (c.readStep id fetch).2 = (match fetch with | none => .err | some d => .fetched d) := by
  rw [readStep_eq]
  simp only [Seg.read, hnd]
  cases fetch <;> rfl

theorem seg_bound' (c : Cache) (key : Nat × Nat) :
    ((c.lookupStep key).1.seg (c.lookupStep key).2).nreads < c.maxreads ∨
    ((c.lookupStep key).1.seg (c.lookupStep key).2).nreads = 0 := by
  cases hf : c.pruneMaxRead.map.find? (·.1 == key) with
  | some e =>
    rw [lookupStep_found hf]
    exact .inl (by simpa using (mem_pruneMaxRead.1 (List.mem_of_find?_eq_some hf)).2)
  | none =>
    rw [lookupStep_new hf, seg_pruneSegments, seg_withNew_new]
    exact .inr rfl

/-- **seg_bound** (C08): a lookup never hands out a cached segment that already served `maxreads`
    reads.  The statement carries a hypothesis the proof does not use (`seg_bound'` is without it). -/
theorem seg_bound (c : Cache) (key : Nat × Nat) (_hmap : ∀ e ∈ c.map, e.2 < c.store.length) :
    let r := c.lookupStep key
    (r.1.seg r.2).nreads < c.maxreads ∨ (r.1.seg r.2).nreads = 0 :=
  seg_bound' c key

theorem lookupStep_store (c : Cache) (key : Nat × Nat) :
    (c.lookupStep key).1.maxreads = c.maxreads ∧
    ((c.lookupStep key).1.store = c.store ∨
      (c.lookupStep key).1.store = c.store ++ [({ key := key } : Seg)]) := by
  cases hf : c.pruneMaxRead.map.find? (·.1 == key) with
  | some e => rw [lookupStep_found hf]; exact ⟨by simp, .inl (by simp)⟩
  | none => rw [lookupStep_new hf]; exact ⟨by simp [Cache.withNew], .inr (by simp [Cache.withNew])⟩

theorem get_bound (c : Cache) (key : Nat × Nat) (fetch : Option Nat)
    (h : ∀ s ∈ c.store, s.nreads ≤ max c.maxreads 1) :
    (c.get key fetch).1.maxreads = c.maxreads ∧
    ∀ s ∈ (c.get key fetch).1.store, s.nreads ≤ max c.maxreads 1 := by
  have hget : c.get key fetch = (c.lookupStep key).1.readStep (c.lookupStep key).2 fetch := by
    rw [Cache.get]  -- `rfl` makes the unifier unfold both steps
  rw [hget, readStep_eq]
  obtain ⟨hmr, hstore⟩ := lookupStep_store c key
  refine ⟨hmr, fun s hs => ?_⟩
  rcases List.mem_or_eq_of_mem_set hs with h2 | h2
  · rcases hstore with hst | hst
    · exact h s (hst ▸ h2)
    · rw [hst] at h2
      rcases List.mem_append.1 h2 with h3 | h3
      · exact h s h3
      · rw [List.mem_singleton] at h3; subst h3; exact Nat.zero_le _
  · subst h2
    rw [Seg.read_nreads]
    rcases seg_bound' c key with hb | hb
    · exact Nat.le_trans hb (Nat.le_max_left _ _)
    · rw [hb]; exact Nat.le_max_right _ _

/-- also the segments pruned from the map; `max … 1`: a fresh segment is read once even with
    `maxreads = 0` -/
theorem seq_bound_store (c : Cache) (ops : List ((Nat × Nat) × Option Nat))
    (h : ∀ s ∈ c.store, s.nreads ≤ max c.maxreads 1) :
    (ops.foldl (fun c op => (c.get op.1 op.2).1) c).maxreads = c.maxreads ∧
    ∀ s ∈ (ops.foldl (fun c op => (c.get op.1 op.2).1) c).store, s.nreads ≤ max c.maxreads 1 :=
  List.foldlRecOn (motive := fun c' : Cache =>
    c'.maxreads = c.maxreads ∧ ∀ s ∈ c'.store, s.nreads ≤ max c.maxreads 1) ops _ ⟨rfl, h⟩
    fun c' ⟨hm, hb⟩ op _ => by
      obtain ⟨hm', hb'⟩ := get_bound c' op.1 op.2 (hm ▸ hb)
      exact ⟨hm'.trans hm, hm ▸ hb'⟩

/-- **seq_bound** (C08): in a sequential run from the empty cache, `nreads`
    of every segment still in the map never exceeds `max maxreads 1` -/
theorem seq_bound (c : Cache) (ops : List ((Nat × Nat) × Option Nat))
    (h0 : c.store = [] ∧ c.map = []) :
    let c' := ops.foldl (fun c op => (c.get op.1 op.2).1) c
    ∀ e ∈ c'.map, (c'.seg e.2).nreads ≤ max c.maxreads 1 := by
  intro c' e _
  have hb := (seq_bound_store c ops (by rw [h0.1]; intro s hs; cases hs)).2
  rcases seg_mem_or_default c' e.2 with h1 | h1
  · exact hb _ h1
  · rw [h1]; exact Nat.zero_le _

/-- one atomic sub-step of some caller: `lookup` runs under the cache lock, `read` (with the
    answer the source would give at that moment) under the segment lock -/
inductive Step where
  | lookup (caller : Nat) (key : Nat × Nat)
  | read (caller : Nat) (fetch : Option Nat)
  deriving DecidableEq, Repr

/-- the shared cache plus, per caller, the handle and key of its last `lookup` -/
structure Sys where
  cache : Cache
  last : Nat → Option (Nat × (Nat × Nat))

structure Event where
  caller : Nat
  key : Nat × Nat          -- the key of the caller's last lookup
  fetch : Option Nat       -- what the source answered (or would have answered) at this step
  out : Out
  deriving DecidableEq, Repr

/-- a `read` of a caller uses the handle its last `lookup` returned (a `read` of a caller that
    never looked up is a no-op) -/
def Sys.step (s : Sys) : Step → Sys × Option Event
  | .lookup k key =>
    ({ cache := (s.cache.lookupStep key).1,
       last := fun j => if j = k then some ((s.cache.lookupStep key).2, key) else s.last j }, none)
  | .read k fetch =>
    match s.last k with
    | none => (s, none)
    | some (id, key) =>
      ({ s with cache := (s.cache.readStep id fetch).1 },
       some ⟨k, key, fetch, (s.cache.readStep id fetch).2⟩)

def Sys.run (s : Sys) : List Step → Sys × List Event
  | [] => (s, [])
  | st :: rest => (((s.step st).1.run rest).1, (s.step st).2.toList ++ ((s.step st).1.run rest).2)

/-- the source may fail but never lies -/
def Honest (truth : Truth) (s : Sys) : Step → Prop
  | .lookup _ _ => True
  | .read k fetch => ∃ id key, s.last k = some (id, key) ∧ (fetch = none ∨ fetch = some (truth key))

/-- any interleaving of any number of callers, keys and reads per lookup; honest at every step -/
def Valid (truth : Truth) : Sys → List Step → Prop
  | _, [] => True
  | s, st :: rest => Honest truth s st ∧ Valid truth (s.step st).1 rest

/-- a handle stays valid after its segment was pruned from the map -/
def SysInv (truth : Truth) (s : Sys) : Prop :=
  Inv truth s.cache ∧
  ∀ k id key, s.last k = some (id, key) → id < s.cache.store.length ∧ (s.cache.seg id).key = key

def Event.ok (truth : Truth) (ev : Event) : Prop :=
  match ev.out with
  | .hit d => d = truth ev.key
  | .fetched d => d = truth ev.key
  | .err => ev.fetch = none

theorem step_inv (truth : Truth) (s : Sys) (st : Step) (hi : SysInv truth s)
    (hh : Honest truth s st) :
    SysInv truth (s.step st).1 ∧ ∀ ev, (s.step st).2 = some ev → ev.ok truth := by
  obtain ⟨hc, hl⟩ := hi
  cases st with
  | lookup k key =>
    obtain ⟨h1, h2, h3, h4, h5⟩ := lookup_inv truth s.cache key hc
    refine ⟨⟨h1, ?_⟩, fun ev hev => by cases hev⟩
    intro j id key' hj
    simp only [Sys.step] at hj ⊢
    by_cases hjk : j = k
    · rw [if_pos hjk] at hj
      cases hj
      exact ⟨h2, h3⟩
    · rw [if_neg hjk] at hj
      have := hl j id key' hj
      exact ⟨Nat.lt_of_lt_of_le this.1 h4, by rw [h5 id this.1]; exact this.2⟩
  | read k fetch =>
    obtain ⟨id, key, hlast, hf⟩ := hh
    obtain ⟨hid, hkey⟩ := hl k id key hlast
    have hf' : fetch = none ∨ fetch = some (truth (s.cache.seg id).key) := by rw [hkey]; exact hf
    obtain ⟨h1, h2, h3, h4, h5⟩ := read_inv truth s.cache id fetch hc hid hf'
    simp only [Sys.step, hlast]
    refine ⟨⟨h1, ?_⟩, ?_⟩
    · intro j id' key' hj
      have := hl j id' key' hj
      refine ⟨by rw [h2]; exact this.1, ?_⟩
      by_cases hii : id' = id
      · rw [hii, h4, ← hii]; exact this.2
      · rw [h3 id' hii]; exact this.2
    · intro ev hev
      cases hev
      rw [hkey] at h5
      exact h5

/-- **sched_inv** (C08): for every schedule (= interleaving of the atomic
    sub-steps of any number of callers) with an honest-or-failing source, the invariant holds in
    the final state and every reported event is correct. -/
theorem sched_inv (truth : Truth) (s : Sys) (steps : List Step) (hi : SysInv truth s)
    (hv : Valid truth s steps) :
    SysInv truth (s.run steps).1 ∧ ∀ ev ∈ (s.run steps).2, ev.ok truth := by
  induction steps generalizing s with
  | nil => exact ⟨hi, fun ev hev => by cases hev⟩
  | cons st rest ih =>
    obtain ⟨hh, hv'⟩ := hv
    obtain ⟨h1, h2⟩ := step_inv truth s st hi hh
    obtain ⟨h3, h4⟩ := ih (s.step st).1 h1 hv'
    refine ⟨h3, ?_⟩
    intro ev hev
    simp only [Sys.run] at hev
    rcases List.mem_append.1 hev with h | h
    · exact h2 ev (Option.mem_toList.1 h)
    · exact h4 ev h

theorem valid_take (truth : Truth) (s : Sys) (steps : List Step) (n : Nat)
    (hv : Valid truth s steps) : Valid truth s (steps.take n) := by
  induction steps generalizing s n with
  | nil => simpa using hv
  | cons st rest ih =>
    cases n with
    | zero => exact trivial
    | succ n => exact ⟨hv.1, ih _ n hv.2⟩

theorem sched_inv_throughout (truth : Truth) (s : Sys) (steps : List Step) (hi : SysInv truth s)
    (hv : Valid truth s steps) (n : Nat) : SysInv truth (s.run (steps.take n)).1 :=
  (sched_inv truth s (steps.take n) hi (valid_take truth s steps n hv)).1

def Sys.init (maxreads : Nat) : Sys := { cache := { maxreads := maxreads }, last := fun _ => none }

theorem init_inv (truth : Truth) (maxreads : Nat) : SysInv truth (Sys.init maxreads) := by
  refine ⟨⟨?_, ?_⟩, ?_⟩
  · intro s hs; cases hs
  · intro e he; cases he
  · intro k id key h; cases h

/-- **sched_transparent** (C08): from the empty cache, for every schedule with an honest-or-failing
    source, `Inv` holds after every prefix and every reported event is `Event.ok` (spelt out). -/
theorem sched_transparent (truth : Truth) (maxreads : Nat) (steps : List Step)
    (hv : Valid truth (Sys.init maxreads) steps) :
    (∀ n, Inv truth ((Sys.init maxreads).run (steps.take n)).1.cache) ∧
    ∀ ev ∈ ((Sys.init maxreads).run steps).2,
      match ev.out with
      | .hit d => d = truth ev.key
      | .fetched d => d = truth ev.key
      | .err => ev.fetch = none :=
  ⟨fun n => (sched_inv_throughout truth _ steps (init_inv truth maxreads) hv n).1,
   (sched_inv truth _ steps (init_inv truth maxreads) hv).2⟩

def KeysNodup (c : Cache) : Prop := c.map.Pairwise (fun a b => a.1 ≠ b.1)

theorem pruneMaxRead_keys {c : Cache} (h : KeysNodup c) : KeysNodup c.pruneMaxRead :=
  List.Pairwise.filter _ h

theorem pruneSegments_bound {c : Cache} (h : KeysNodup c) :
    KeysNodup c.pruneSegments ∧ c.pruneSegments.map.length ≤ 5 := by
  fun_cases Cache.pruneSegments c with
  | case1 hle => exact ⟨h, hle⟩
  | case2 _ sorted keep =>
    -- distinct keys make the filtered list `Nodup`, and it is a subset of a list of length ≤ 5
    -- (`const size = 5` in `pruneSegments`)
    have hnd : (c.map.filter fun e => keep.contains e).Nodup := by
      refine List.Pairwise.filter _ (List.Pairwise.imp ?_ h)
      intro a b hab heq; exact hab (congrArg Prod.fst heq)
    refine ⟨List.Pairwise.filter _ h,
      Nat.le_trans (hnd.length_le_of_subset (l₂ := keep) ?_) (List.length_take_le _ _)⟩
    intro x hx
    have := (List.mem_filter.1 hx).2
    simpa using this

/-- **lookup_map_bound** (C08): a lookup keeps the keys of the map distinct and leaves at most five
    entries: a client's cache never holds more than five segments. -/
theorem lookup_map_bound (c : Cache) (key : Nat × Nat) (h : KeysNodup c) :
    KeysNodup (c.lookupStep key).1 ∧ (c.lookupStep key).1.map.length ≤ 5 := by
  cases hf : c.pruneMaxRead.map.find? (·.1 == key) with
  | some e =>
    rw [lookupStep_found hf]
    exact pruneSegments_bound (pruneMaxRead_keys h)
  | none =>
    rw [lookupStep_new hf]
    have hk : KeysNodup (c.withNew key) := by
      refine List.pairwise_append.2 ⟨pruneMaxRead_keys h, List.pairwise_singleton _ _, ?_⟩
      intro a ha b hb
      rw [List.mem_singleton] at hb
      have := List.find?_eq_none.1 hf a ha
      rw [hb]
      simpa using this
    exact pruneSegments_bound hk

theorem sched_map_bound (s : Sys) (steps : List Step)
    (h : KeysNodup s.cache ∧ s.cache.map.length ≤ 5) :
    KeysNodup (s.run steps).1.cache ∧ (s.run steps).1.cache.map.length ≤ 5 := by
  induction steps generalizing s with
  | nil => exact h
  | cons st rest ih =>
    refine ih (s.step st).1 ?_
    cases st with
    | lookup k key => exact lookup_map_bound s.cache key h.1
    | read k fetch =>
      simp only [Sys.step]
      split
      · exact h
      · simp only [KeysNodup, readStep_eq]; exact h

/-- the cached pair is one of the pairs `ann` announced so far (through `update`), or empty -/
def announcedInv (ann : List (Nat × String)) (h : Head) : Prop :=
  (h.num, h.hash) ∈ ann ∨ (h.num = 0 ∧ h.hash = "")

/-- **head_update_inv** (C08): one `update`, accepted or ignored (a repeat, a regression), leaves
    the cached pair among the pairs announced so far, the new one included. -/
theorem head_update_inv (ann : List (Nat × String)) (h : Head) (n : Nat) (hs : String)
    (hi : announcedInv ann h) : announcedInv ((n, hs) :: ann) (h.update n hs) := by
  fun_cases Head.update h n hs with
  | case1 => exact hi.imp (List.mem_cons_of_mem _) id
  | case2 => exact .inl List.mem_cons_self

/-- **head_get_inv** (C08): a read leaves the cached pair announced (or empty); a hit returns an
    announced pair at or above the height asked for and uses up one of the `maxreads` reads. -/
theorem head_get_inv (ann : List (Nat × String)) (h : Head) (n : Nat) (hi : announcedInv ann h) :
    announcedInv ann (h.get n).1 ∧
    (∀ p, (h.get n).2 = some p → p ∈ ann ∧ n ≠ 0 ∧ n ≤ p.1 ∧ h.nreads < h.maxreads ∧
      (h.get n).1.nreads = h.nreads + 1) := by
  fun_cases Head.get h n with
  | case1 | case2 => exact ⟨hi, nofun⟩
  | case3 => exact ⟨.inr ⟨rfl, rfl⟩, nofun⟩
  | case4 _ h1 h2 =>
    obtain ⟨hn, hle⟩ := not_or.1 h1
    refine ⟨hi, fun p hp => ?_⟩
    cases hp
    refine ⟨?_, hn, Nat.le_of_not_lt hle, Nat.lt_of_not_ge h2, rfl⟩
    rcases hi with hi | hi
    · exact hi
    · exact absurd (Nat.le_zero.1 (hi.1 ▸ Nat.le_of_not_lt hle)) hn

/-- no cached error, head cache: after `error` the next read of *any* block misses, and that
    read clears the flag -/
theorem head_error_miss (h : Head) (n : Nat) :
    (h.error.get n).2 = none ∧ (h.error.get n).1.err = false ∧ (h.error.get n).1.nreads = 0 := by
  simp [Head.error, Head.get]

/-- **head_error_inv** (C08): `error` keeps the pair, and the next read misses (stated for block 5;
    `head_error_miss` has every block). -/
theorem head_error_inv (ann : List (Nat × String)) (h : Head) (hi : announcedInv ann h) :
    announcedInv ann h.error ∧ (h.error.get 5).2 = none :=
  ⟨hi, (head_error_miss h 5).1⟩

def Head.WF (h : Head) : Prop := h.nreads ≤ h.maxreads

theorem head_wf_get (h : Head) (n : Nat) (hw : h.WF) :
    (h.get n).1.WF ∧ (h.get n).1.maxreads = h.maxreads := by
  fun_cases Head.get h n with
  | case1 | case2 => exact ⟨hw, rfl⟩
  | case3 => exact ⟨Nat.zero_le _, rfl⟩
  | case4 _ _ h2 => exact ⟨Nat.lt_of_not_ge h2, rfl⟩

theorem head_hit (h : Head) (n : Nat) (p : Nat × String) (hp : (h.get n).2 = some p) :
    h.nreads < h.maxreads ∧ h.err = false ∧ n ≠ 0 ∧ n ≤ h.num ∧ p = (h.num, h.hash) ∧
    (h.get n).1 = { h with nreads := h.nreads + 1 } := by
  revert hp
  fun_cases Head.get h n with
  | case1 | case2 | case3 => nofun
  | case4 he h1 h2 =>
    rintro ⟨⟩
    obtain ⟨hn, hle⟩ := not_or.1 h1
    exact ⟨Nat.lt_of_not_ge h2, by simpa using he, hn, Nat.le_of_not_lt hle, rfl, rfl⟩

theorem head_miss (h : Head) (n : Nat) (hp : (h.get n).2 = none) :
    (h.get n).1.nreads = h.nreads ∨ (h.get n).1.nreads = 0 := by
  revert hp
  fun_cases Head.get h n with
  | case1 | case2 => exact fun _ => .inl rfl
  | case3 => exact fun _ => .inr rfl
  | case4 => nofun

inductive HOp where
  | get (n : Nat)
  | update (n : Nat) (hs : String)
  | error
  deriving DecidableEq, Repr

def Head.step (h : Head) : HOp → Head × Option (Nat × String)
  | .get n => h.get n
  | .update n hs => (h.update n hs, none)
  | .error => (h.error, none)

/-- a *refresh*: the cached pair is replaced (an accepted `update`), invalidated (`error`) or
    dropped because it expired (a `get` that misses and clears the pair) -/
def Head.refreshes (h : Head) : HOp → Bool
  | .get n => (h.get n).2.isNone && decide ((h.get n).1.num ≠ h.num)
  | .update n _ => decide (h.num < n)
  | .error => true

/-- ghost counter: number of hits since the last refresh -/
def Head.ghost (h : Head) (k : Nat) (op : HOp) : Nat :=
  if h.refreshes op then 0 else if (h.step op).2.isSome then k + 1 else k

def headRun : Head × Nat → List HOp → Head × Nat
  | hk, [] => hk
  | hk, op :: ops => headRun ((hk.1.step op).1, hk.1.ghost hk.2 op) ops

theorem head_step_ghost (h : Head) (k : Nat) (op : HOp) (hw : h.WF) (hk : k ≤ h.nreads) :
    (h.step op).1.WF ∧ (h.step op).1.maxreads = h.maxreads ∧
    h.ghost k op ≤ (h.step op).1.nreads := by
  cases op with
  | error =>
    exact ⟨Nat.zero_le _, rfl, by simp [Head.ghost, Head.refreshes]⟩
  | update n hs =>
    by_cases hn : h.num < n
    · have : ¬ n ≤ h.num := Nat.not_le_of_gt hn
      simp [Head.ghost, Head.refreshes, Head.step, Head.update, Head.WF, hn, this]
    · have : n ≤ h.num := Nat.le_of_not_lt hn
      simpa [Head.ghost, Head.refreshes, Head.step, Head.update, hn, this, hk] using hw
  | get n =>
    refine ⟨(head_wf_get h n hw).1, (head_wf_get h n hw).2, ?_⟩
    show (if ((h.get n).2.isNone && decide ((h.get n).1.num ≠ h.num)) = true then 0
      else if (h.get n).2.isSome then k + 1 else k) ≤ (h.get n).1.nreads
    fun_cases Head.get h n with
    | case1 | case2 | case4 => simpa using hk
    | case3 _ h1 _ =>
      have : ¬ (0 = h.num) := by omega
      simp [this]

/-- **head_bound** (C08): on every trace of `get`/`update`/`error` from a head with
    `nreads ≤ maxreads`, the number of hits served since the last refresh (accepted update /
    expiry / error) never exceeds `maxreads`. -/
theorem head_bound (h : Head) (k : Nat) (ops : List HOp) (hw : h.WF) (hk : k ≤ h.nreads) :
    (headRun (h, k) ops).2 ≤ (headRun (h, k) ops).1.nreads ∧
    (headRun (h, k) ops).1.nreads ≤ h.maxreads ∧
    (headRun (h, k) ops).1.maxreads = h.maxreads := by
  induction ops generalizing h k with
  | nil => exact ⟨hk, hw, rfl⟩
  | cons op ops ih =>
    obtain ⟨h1, h2, h3⟩ := head_step_ghost h k op hw hk
    have := ih (h.step op).1 (h.ghost k op) h1 h3
    rw [h2] at this
    exact this

theorem head_bound_hits (h : Head) (ops : List HOp) (hw : h.WF) :
    (headRun (h, 0) ops).2 ≤ h.maxreads :=
  let ⟨a, b, _⟩ := head_bound h 0 ops hw (Nat.zero_le _)
  Nat.le_trans a b

def allHits : Head → List Nat → Prop
  | _, [] => True
  | h, n :: ns => (h.get n).2.isSome = true ∧ allHits (h.get n).1 ns

/-- **head_bound_successive** (C08): successive reads that are all hits number at most
    `maxreads - nreads`; in particular at most `maxreads` after a refresh -/
theorem head_bound_successive (h : Head) (ns : List Nat) (hw : h.WF) (hh : allHits h ns) :
    ns.length + h.nreads ≤ h.maxreads := by
  induction ns generalizing h with
  | nil => simpa [Head.WF] using hw
  | cons n ns ih =>
    obtain ⟨h1, h2⟩ := hh
    obtain ⟨p, hp⟩ := Option.isSome_iff_exists.1 h1
    obtain ⟨hlt, _, _, _, _, heq⟩ := head_hit h n p hp
    have := ih (h.get n).1 (head_wf_get h n hw).1 h2
    rw [heq] at this
    simp only [List.length_cons]
    simp only at this
    omega

/-- true but nearly vacuous: for a non-empty `ns` the right disjunct only restates
    `nreads ≤ maxreads`; the statement about the number of hits is `head_bound`. -/
theorem head_bound_original (h : Head) (ns : List Nat) (h0 : h.nreads ≤ h.maxreads) :
    let run := ns.foldl (fun (acc : Head × Nat) n =>
      match (acc.1.get n).2 with
      | some _ => ((acc.1.get n).1, acc.2 + 1)
      | none => ((acc.1.get n).1, acc.2)) (h, 0)
    run.2 + h.nreads ≤ h.maxreads ∨ ∃ n ∈ ns, True ∧ run.1.nreads ≤ run.1.maxreads := by
  intro run
  cases ns with
  | nil => left; simpa [run] using h0
  | cons n ns =>
    refine .inr ⟨n, List.mem_cons_self, trivial, ?_⟩
    refine List.foldlRecOn (motive := fun acc : Head × Nat => acc.1.WF) (n :: ns) _ h0 ?_
    intro acc hw m _
    split <;> exact (head_wf_get acc.1 m hw).1

theorem addLog_mem (ls : List Nat) (idx x : Nat) : x ∈ addLog ls idx ↔ x ∈ ls ∨ x = idx := by
  fun_cases addLog ls idx with
  | case1 h =>
    have : idx ∈ ls := by simpa using h
    exact ⟨.inl, fun h1 => h1.elim id (· ▸ this)⟩
  | case2 => simp

theorem addLog_nodup (ls : List Nat) (idx : Nat) (h : ls.Nodup) : (addLog ls idx).Nodup := by
  fun_cases addLog ls idx with
  | case1 => exact h
  | case2 hc =>
    have hni : idx ∉ ls := by simpa using hc
    rw [List.nodup_append]
    refine ⟨h, by simp, ?_⟩
    intro a ha b hb
    rw [List.mem_singleton] at hb
    rw [hb]
    intro hab; rw [hab] at ha; exact hni ha

/-- **attach_set** (C08): after any sequence of attaches, in any order and with any repeats, the
    logs of a transaction are, as a set by index, the union of what the callers attached, and no
    index occurs twice. -/
theorem attach_set (ls : List Nat) (adds : List Nat) (hnd : ls.Nodup) :
    (adds.foldl addLog ls).Nodup ∧ ∀ x, x ∈ adds.foldl addLog ls ↔ x ∈ ls ∨ x ∈ adds := by
  induction adds generalizing ls with
  | nil => exact ⟨hnd, by simp⟩
  | cons a adds ih =>
    obtain ⟨h1, h2⟩ := ih (addLog ls a) (addLog_nodup ls a hnd)
    refine ⟨h1, ?_⟩
    intro x
    rw [List.foldl_cons, h2 x, addLog_mem, List.mem_cons, or_assoc]

theorem attach_prefix (ls adds : List Nat) : ls <+: adds.foldl addLog ls :=
  List.foldlRecOn (motive := (ls <+: ·)) adds _ (List.prefix_refl _) fun acc h a _ => by
    refine h.trans ?_
    fun_cases addLog acc a with
    | case1 => exact List.prefix_refl _
    | case2 => exact List.prefix_append _ _

def gets (c : Cache) : List ((Nat × Nat) × Option Nat) → Cache × List Out
  | [] => (c, [])
  | op :: ops => (((gets (c.get op.1 op.2).1 ops).1), (c.get op.1 op.2).2 :: (gets (c.get op.1 op.2).1 ops).2)

/-- `maxreads = 2`: one fetch serves two reads, the third read fetches again -/
example : (gets { maxreads := 2 } [((10, 5), some 7), ((10, 5), some 7), ((10, 5), some 7)]).2
    = [.fetched 7, .hit 7, .fetched 7] := by decide +kernel

/-- a failed fetch is not cached: the next read of the same range fetches (in the same segment) -/
example : gets { maxreads := 2 } [((10, 5), none), ((10, 5), some 7)]
    = ({ maxreads := 2, store := [{ key := (10, 5), nreads := 2, done := true, data := 7 }],
         map := [((10, 5), 0)] }, [.err, .fetched 7]) := by decide +kernel

/-- six distinct ranges: the one with the smallest start is evicted from the map -/
example : (gets { maxreads := 2 } [((30, 5), some 3), ((10, 5), some 1), ((50, 5), some 5),
      ((20, 5), some 2), ((60, 5), some 6), ((40, 5), some 4)]).1.map
    = [((30, 5), 0), ((50, 5), 2), ((20, 5), 3), ((60, 5), 4), ((40, 5), 5)] := by decide +kernel

/-- head cache, `maxreads = 2`: update 5, two hits, the third read misses and resets the cache -/
example :
    let h0 : Head := ({ maxreads := 2 } : Head).update 5 "a"
    let r1 := h0.get 5
    let r2 := r1.1.get 3
    let r3 := r2.1.get 5
    (r1.2, r2.2, r3.2, r3.1) =
      (some (5, "a"), some (5, "a"), none, ({ maxreads := 2 } : Head)) := by decide +kernel

/-- a valid schedule with two interleaved callers on the same range (`truth _ = 7`,
    `maxreads = 1`): both look up before either reads, the first read fetches, the second is served
    from the same segment — and a third caller arriving later fetches again -/
example :
    ((Sys.init 1).run [.lookup 0 (10, 5), .lookup 1 (10, 5), .read 0 (some 7), .read 1 none,
        .lookup 2 (10, 5), .read 2 (some 7)]).2.map (fun ev => (ev.caller, ev.out))
      = [(0, .fetched 7), (1, .hit 7), (2, .fetched 7)] := by decide +kernel

example : Valid (fun _ => 7) (Sys.init 1) [.lookup 0 (10, 5), .lookup 1 (10, 5), .read 0 (some 7),
    .read 1 none, .lookup 2 (10, 5), .read 2 (some 7)] := by
  refine ⟨trivial, trivial, ⟨_, _, rfl, .inr rfl⟩, ⟨_, _, rfl, .inl rfl⟩, trivial,
    ⟨_, _, rfl, .inr rfl⟩, trivial⟩

/-- concurrency: `maxreads` does not bound the reads served by one fetch when callers obtain
    the handle before the first read completes (here `maxreads = 1`, 4 callers, 1 fetch) -/
example :
    ((Sys.init 1).run [.lookup 0 (10, 5), .lookup 1 (10, 5), .lookup 2 (10, 5), .lookup 3 (10, 5),
        .read 0 (some 7), .read 1 none, .read 2 none, .read 3 none]).2.map (·.out)
      = [.fetched 7, .hit 7, .hit 7, .hit 7] := by decide +kernel

/-- eviction is by greatest start, not by recency: with 5 newer ranges cached, an older range is
    evicted in the very lookup that created it and is therefore fetched on every read -/
example : (gets { maxreads := 2 } [((20, 5), some 2), ((30, 5), some 3), ((40, 5), some 4),
      ((50, 5), some 5), ((60, 5), some 6), ((10, 5), some 1), ((10, 5), some 1)]).2
    = [.fetched 2, .fetched 3, .fetched 4, .fetched 5, .fetched 6, .fetched 1, .fetched 1] := by
  decide +kernel

/-- head cache: an announcement at the *same* height with another hash (a reorg of the tip) is
    ignored; the cache keeps serving the replaced hash -/
example : ((({ maxreads := 2 } : Head).update 5 "a").update 5 "b").get 5
    = ({ maxreads := 2, num := 5, hash := "a", nreads := 1 }, some (5, "a")) := by decide +kernel

/-- head cache: `error` resets the counter but keeps the pair; after the single miss that clears
    the flag, the *old* pair is served for another `maxreads` reads (2 hits, error, miss, 2 hits) -/
example :
    let h0 : Head := ({ maxreads := 2 } : Head).update 5 "a"
    let h2 := ((h0.get 5).1.get 5).1.error
    let r1 := h2.get 5
    let r2 := r1.1.get 5
    let r3 := r2.1.get 5
    let r4 := r3.1.get 5
    (r1.2, r2.2, r3.2, r4.2) = (none, some (5, "a"), some (5, "a"), none) := by decide +kernel

end Shovel.Cache

section
open Shovel.Cache
#print axioms lookup_inv
#print axioms read_inv
#print axioms no_cached_error
#print axioms not_done_refetches
#print axioms seg_bound
#print axioms seg_bound'
#print axioms seq_bound
#print axioms seq_bound_store
#print axioms lookup_map_bound
#print axioms sched_map_bound
#print axioms step_inv
#print axioms sched_inv
#print axioms sched_inv_throughout
#print axioms sched_transparent
#print axioms head_update_inv
#print axioms head_get_inv
#print axioms head_error_inv
#print axioms head_error_miss
#print axioms head_hit
#print axioms head_miss
#print axioms head_bound
#print axioms head_bound_hits
#print axioms head_bound_successive
#print axioms head_bound_original
#print axioms attach_set
#print axioms attach_prefix
end
