import Shovel.Proofs.WorldLive
import Shovel.Proofs.WorldEval
/-
  C01–C06: theorems about the world model `converge` (Shovel/Model/World.lean).

  The statements of the registered theorems use the vocabulary of Model/, Spec/ and Props/ only;
  that is why they spell out what the proofs call `pos`, `Std`, `UInv` and `Honest` (Proofs/World*).
-/
namespace Shovel.World

/-- **frame** (C01, C02, C04, C05): a step of task `t` — fault-free or faulted at any point, with
    any source answers, including reorg unwinding — leaves the positions and rows of every other
    (source, integration) pair untouched, in the final state and in the state committed mid-way,
    even when pairs share the destination table. -/
theorem frame (t : Task) (db : DB) (sc : Script) (f : Option Pos) :
    let r := converge t db sc f
    (r.db.cur.filter fun x => !mineC t x) = (db.cur.filter fun x => !mineC t x) ∧
    (r.db.rows.filter fun x => !mine t x) = (db.rows.filter fun x => !mine t x) ∧
    (∀ m, r.mid = some m →
      (m.cur.filter fun x => !mineC t x) = (db.cur.filter fun x => !mineC t x) ∧
      (m.rows.filter fun x => !mine t x) = (db.rows.filter fun x => !mine t x)) := by
  intro r
  obtain ⟨h1, h2⟩ := converge_sub t db sc f
  exact ⟨h1.cur, h1.rows, fun m hm => ⟨(h2 m hm).cur, (h2 m hm).rows⟩⟩

/-- **stamp** (C04): everything a step adds carries the task's own source and integration -/
theorem stamp (t : Task) (db : DB) (sc : Script) (f : Option Pos) :
    let r := converge t db sc f
    (∀ x ∈ r.db.rows, x ∈ db.rows ∨ mine t x = true) ∧ (∀ x ∈ r.db.cur, x ∈ db.cur ∨ mineC t x = true) := by
  intro r
  obtain ⟨h1, _⟩ := converge_sub t db sc f
  exact ⟨h1.rowsm, h1.curm⟩

/-- **keysOK_step** (C01): the unique-key hypothesis is preserved by any step (what a step adds is the
    task's own, so the foreign rows are the old ones) -/
theorem keysOK_step (t : Task) (c : Chain) (db : DB) (sc : Script) (f : Option Pos) (hk : KeysOK t c db) :
    KeysOK t c (converge t db sc f).db := by
  refine ⟨hk.1, fun r hr hm => hk.2 r ?_ hm⟩
  rcases (stamp t db sc f).1 r hr with h | h
  · exact h
  · rw [hm] at h; cases h

/-- **fault_is_prefix** (C02, C03, C06): whatever I/O operation a fault strikes (error reply,
    connection drop or process death are the same for the committed state), the database is left in
    the state before the step, in the state committed by the first (unwinding) transaction of the
    fault-free run, or in the final state of the fault-free run — never anything else. -/
theorem fault_is_prefix (t : Task) (db : DB) (sc : Script) (p : Pos) :
    let r := converge t db sc (some p)
    let r0 := converge t db sc none
    r.db = db ∨ some r.db = r0.mid ∨ r.db = r0.db := by
  intro r r0
  rcases converge_cases t db sc (some p) with he | ⟨a, h, h0⟩
  · exact .inl he.db
  · rw [show r = _ from h, show r0 = _ from h0]
    rcases commitStep_fault t p a.s2 a.bs with hc | hc
    · exact .inl (hc.trans (a.same.db.trans a.dbEq))
    · exact .inr hc

/-- **done_iff** (C06): once the recorded position has reached the configured stop the step
    reports completion and writes nothing — unless a fault strikes before the position is read
    (`begin1`, `qlatest 0`); completion is reported only with a stop configured. -/
theorem done_iff (t : Task) (db : DB) (sc : Script) (f : Option Pos) :
    let r := converge t db sc f
    (∀ x, db.latestCur t.src t.ig = some x → 0 < t.stop → t.stop ≤ x.num → f ≠ some .begin1 → f ≠ some (.qlatest 0) →
      r.outcome = .done ∧ r.db = db) ∧
    (r.outcome = .done → 0 < t.stop) := by
  intro r
  refine ⟨fun x hx hs hxs hf1 hf2 => ?_, fun hd => ?_⟩
  · have h1 : hit f .begin1 = false := by unfold hit; simpa using hf1
    have h2 : hit f (.qlatest 0) = false := by unfold hit; simpa using hf2
    show (converge t db sc f).outcome = .done ∧ (converge t db sc f).db = db
    rw [converge_eq]
    simp only [h1, Bool.false_eq_true, ↓reduceIte]
    rw [loop_succ, iterK, planK_done t f { db := db, view := db, script := sc } x hx hs hxs h2]
    exact ⟨rfl, rfl⟩
  · rcases converge_shape t db sc f with ⟨_, _, _, h⟩ | ⟨_, _, _, h⟩
    · exact h hd
    · rw [show r = _ from h] at hd; cases hd

/-- **stop_bound** (C06): no position and no row beyond the configured stop is ever written,
    for all batch sizes (the target is clipped before the batch is cut) — given that the source
    returns the blocks it was asked for. -/
theorem stop_bound (t : Task) (c : Chain) (db : DB) (sc : Script) (f : Option Pos)
    (hc : c.WF) (hsc : ScriptOK c sc) (hstop : 0 < t.stop) (hb : 1 ≤ t.batch) (hcc : 1 ≤ t.conc)
    (hcb : t.conc * t.batch < 2 ^ 63) (hhead : c.head < 2 ^ 62) :
    let r := converge t db sc f
    (∀ x ∈ r.db.cur, x ∈ db.cur ∨ x.num ≤ t.stop) ∧ (∀ x ∈ r.db.rows, x ∈ db.rows ∨ x.blk ≤ t.stop) := by
  intro r
  have _ := hhead  -- the statement carries hypotheses the proof does not use
  exact converge_mem f (· ≤ t.stop) fun hat b hbm =>
    Nat.le_trans (hat.upper hc ⟨hb, hcc, hcb⟩ hsc b hbm) ((hat.planned.bounds (hat.scriptOK hsc).1).2.2.2 hstop)

/-- **start_bound** (C06): nothing before the configured start is written -/
theorem start_bound (t : Task) (c : Chain) (db : DB) (sc : Script) (f : Option Pos)
    (hc : c.WF) (hsc : ScriptOK c sc) (hstart : 0 < t.start) (hb : 1 ≤ t.batch) (hcc : 1 ≤ t.conc)
    (hcb : t.conc * t.batch < 2 ^ 63) (hhead : c.head < 2 ^ 62)
    (hcur : ∀ x ∈ db.cur, mineC t x = true → t.start ≤ x.num) :
    let r := converge t db sc f
    (∀ x ∈ r.db.cur, x ∈ db.cur ∨ t.start ≤ x.num) ∧ (∀ x ∈ r.db.rows, x ∈ db.rows ∨ t.start ≤ x.blk) := by
  intro r
  refine converge_mem f (t.start ≤ ·) fun hat b hb' => ?_
  obtain ⟨hsc0, hsc1⟩ := hat.scriptOK hsc
  obtain ⟨hd1, hd2, hd3, _⟩ := hat.planned.bounds hsc0
  -- the local position is a recorded one of `db`, or the block before the start
  have hln : t.start ≤ hat.ln + 1 := by
    rcases hat.planned.loc with ⟨x, hx, hn, _⟩ | ⟨_, _, hn, _⟩ | ⟨_, hs, _⟩
    · obtain ⟨h1, h2⟩ := List.mem_filter.mp (latestCur_mem hx).1
      have := hcur x (hat.view.curm x h1) h2
      omega
    · omega
    · omega
  rcases load_chain hc ⟨hb, hcc, hcb⟩ hsc1 hd1 (by omega) (by omega) hat.loaded
    with ⟨h, _⟩ | ⟨h, _⟩ | ⟨k, _, _, _, ⟨h, _⟩ | ⟨h, _⟩⟩
  · cases h
  · cases h
  · cases h
  have := (mem_slice_num hc (LoadRes.blocks.inj h ▸ hb')).1
  omega

/-- **inv_step** (C01, C02, C03): on a chain that only grows (`c` is fixed; the source may report
    any block up to its head as the head: `ScriptOK`), for every fault position and every
    script of honest-or-failed answers, every state a step can leave behind (final and mid-way)
    satisfies the invariant: rows cover exactly the blocks up to the recorded position. -/
theorem inv_step (t : Task) (c : Chain) (db : DB) (sc : Script) (f : Option Pos)
    (hc : c.WF) (hsc : ScriptOK c sc) (hstart : 0 < t.start) (hb : 1 ≤ t.batch) (hcc : 1 ≤ t.conc) (hcb : t.conc * t.batch < 2 ^ 63)
    (hhead : c.head < 2 ^ 62) (hdeps : t.deps = []) (hinv : Inv t c (t.start - 1) db) (hk : KeysOK t c db) :
    let r := converge t db sc f
    Inv t c (t.start - 1) r.db ∧ (∀ m, r.mid = some m → Inv t c (t.start - 1) m) := by
  intro r
  have _ := hdeps
  have _ := hk
  rcases step_shape ⟨⟨hb, hcc, hcb⟩, hc, hstart, hhead⟩ hsc hinv f
    with ⟨h1, h2, _⟩ | ⟨k, last, hk1, _, hk3, _, hn, hh, h⟩
  · exact ⟨h1 ▸ hinv, fun m hm => h2 m hm ▸ hinv⟩
  · rw [show r = _ from h]
    exact ⟨Inv_committed hinv hk1 hk3 hn (hn ▸ hh), fun m hm => by cases hm; exact hinv⟩

/-- **step_exact** (C01, C03): a successful step advances the position by exactly the contiguous
    blocks whose rows it appended (between 1 and batch_size of them) and records the last one with
    its hash; every other outcome leaves the database unchanged. -/
theorem step_exact (t : Task) (c : Chain) (db : DB) (sc : Script)
    (hc : c.WF) (hsc : ScriptOK c sc) (hstart : 0 < t.start) (hb : 1 ≤ t.batch) (hcc : 1 ≤ t.conc) (hcb : t.conc * t.batch < 2 ^ 63)
    (hhead : c.head < 2 ^ 62) (hdeps : t.deps = []) (hinv : Inv t c (t.start - 1) db) (hk : KeysOK t c db) :
    let r := converge t db sc none
    let localNum := (topOf (db.cur.filter (mineC t))).getD (t.start - 1)
    (∀ n, r.outcome = .ok n →
      ∃ k, 1 ≤ k ∧ k ≤ t.batch ∧ n = localNum + k ∧ n ≤ c.head ∧
        r.db.rows = db.rows ++ (c.slice (localNum + 1) k).flatMap (rowsFor t) ∧
        r.db.cur = db.cur ++ [{ src := t.src, ig := t.ig, num := n, hash := c.hashAt n }]) ∧
    ((∀ n, r.outcome ≠ .ok n) → r.db = db) := by
  intro r localNum
  have _ := hdeps
  have _ := hk
  rcases step_shape ⟨⟨hb, hcc, hcb⟩, hc, hstart, hhead⟩ hsc hinv none
    with ⟨h1, _, h3⟩ | ⟨k, last, hk1, hk2, hk3, _, hn, hh, h⟩
  · exact ⟨fun n hn => absurd hn (h3 n), fun _ => h1⟩
  · rw [show r = _ from h]
    refine ⟨fun n hn' => ?_, fun hno => absurd rfl (hno last.num)⟩
    cases hn'
    refine ⟨k, hk1, hk2, hn, hn ▸ hk3, rfl, ?_⟩
    show db.cur ++ [newCur t last] = _
    rw [newCur, hh, hn]

/-- **dep_gate** (C05): a task with filter references writes nothing unless EVERY referenced
    integration has a recorded position for the same source, and a successful step never
    advances beyond the smallest of those positions. -/
theorem dep_gate (t : Task) (c : Chain) (db : DB) (sc : Script) (f : Option Pos)
    (hc : c.WF) (hsc : ScriptOK c sc) (hb : 1 ≤ t.batch) (hcc : 1 ≤ t.conc) (hcb : t.conc * t.batch < 2 ^ 63)
    (hdeps : t.deps ≠ []) (hself : t.ig ∉ t.deps) :
    let r := converge t db sc f
    ((∃ d ∈ t.deps, db.latestCur t.src d = none) → r.db = db ∧ ∀ n, r.outcome ≠ .ok n) ∧
    (∀ n, r.outcome = .ok n → ∀ d ∈ t.deps, ∃ x, db.latestCur t.src d = some x ∧ n ≤ x.num) := by
  intro r
  -- the view of another integration's positions is the committed one
  have other : ∀ (v : DB) (d : String), Sub t db v → d ∈ t.deps → v.latestCur t.src d = db.latestCur t.src d := by
    intro v d hsub hd
    refine latestCur_congr (filter_of_filter_eq (fun x hx => ?_) hsub.cur)
    have hne : x.ig ≠ t.ig := fun h => hself (by simp at hx; rw [← h, hx.2]; exact hd)
    simp [mineC, hne]
  -- what passing the gate means, in terms of the committed state
  have gate : ∀ hat : AtCommit t db sc,
      ∃ tg, hat.ln + hat.d ≤ tg ∧ ∀ dp ∈ t.deps, ∃ x, db.latestCur t.src dp = some x ∧ tg ≤ x.num := by
    intro hat
    obtain ⟨g, gh, target0, _, hdf, _, hd, _⟩ := hat.planned.ex
    have := clip_le t target0
    refine ⟨target0, by omega, fun dp hdp => ?_⟩
    rcases hdf with ⟨h, _⟩ | ⟨_, dn, dh, hdt, _, hle, _⟩
    · exact absurd h hdeps
    · obtain ⟨x, hx1, hx2⟩ := depTarget_some hdt dp hdp
      exact ⟨x, other _ dp hat.view.sub hdp ▸ hx1, by omega⟩
  constructor
  · rintro ⟨d0, hd0, hnone⟩
    rcases converge_cases t db sc f with he | ⟨hat, _⟩
    · exact ⟨he.db, he.not_ok⟩
    · obtain ⟨_, _, hg⟩ := gate hat
      obtain ⟨x, hx, _⟩ := hg d0 hd0
      rw [hnone] at hx; cases hx
  · intro n hn d hd
    rcases converge_shape t db sc f with ⟨_, _, hno, _⟩ | ⟨hat, last, hlast, hr⟩
    · exact absurd hn (hno n)
    · rw [show r = _ from hr] at hn
      cases hn
      have := hat.upper hc ⟨hb, hcc, hcb⟩ hsc last (List.mem_of_getLast? hlast)
      obtain ⟨tg, htg, hg⟩ := gate hat
      obtain ⟨x, hx1, hx2⟩ := hg d hd
      exact ⟨x, hx1, by omega⟩

/-- **partition_cover** (C01): for every batch_size ≥ 1 and concurrency ≥ 1 (including
    batch_size < concurrency and non-divisible pairs) and every `limit ≤ batch_size`, the ranges
    `load` spawns are consecutive, start at `start`, and cover at least one and at most `limit`
    blocks. -/
theorem partition_cover (batch conc start limit : Nat) (hb : 1 ≤ batch) (hc : 1 ≤ conc)
    (hl : 1 ≤ limit) (hlb : limit ≤ batch) (hs : start + limit < 2 ^ 63) (hcb : conc * batch < 2 ^ 63) :
    let ps := parts batch conc start limit
    ps ≠ [] ∧ (ps.map (·.2)).sum ≤ limit ∧ 1 ≤ (ps.map (·.2)).sum ∧
    (∀ i m n, ps[i]? = some (m, n) → m = start + ((ps.take i).map (·.2)).sum ∧ 1 ≤ n) := by
  intro ps
  have _ := hlb
  obtain ⟨h1, h2, h3⟩ := parts_spec batch conc start limit hb hc hl hs hcb
  refine ⟨?_, h2, h1, consec_getElem start _ h3⟩
  intro h
  rw [show parts batch conc start limit = [] from h] at h1
  simp at h1

/-- **load_linked** (C01, C03): whatever blocks a step accepts from `load` — for ANY answer script,
    honest or not — form one hash-linked run: every block that carries a 32-byte parent hash names
    the hash of the block before it (if that hash has 32 bytes too). Partitions answered from
    different forks are never merged. -/
theorem load_linked (t : Task) (s : St) (localHash : String) (start limit : Nat) (bs : List Blk) (s' : St)
    (h : load t s localHash start limit = (.blocks bs, s')) : linked bs = true := by
  rw [load_eq] at h
  exact (loadRes_blocks (congrArg Prod.fst h)).2

/-- the unique-key hypothesis `unwind_step` states about the database WITHOUT the orphaned rows is
    (as far as foreign rows go) the one about the database itself -/
theorem keysOK_of_filter_mine {t : Task} {c : Chain} {db : DB} {n : Nat}
    (hk : KeysOK t c { db with rows := db.rows.filter fun r => !(mine t r && decide (n < r.blk)) }) :
    KeysOK t c db := by
  obtain ⟨k1, k2⟩ := hk
  refine ⟨k1, fun x hx hm => k2 x ?_ hm⟩
  show x ∈ db.rows.filter _
  rw [List.mem_filter]
  exact ⟨hx, by simp [hm]⟩

/-- **unwind_step** (C03): for a task with a configured start, no dependencies and no stop (the
    target is then the head the source reports).  The source has settled on chain `c` and grown
    past the recorded position. The task's recorded positions at or below some position `g` are
    canonical blocks of `c` (the retained history reaches below the fork), every position above `g`
    is an orphan (its hash is not `c`'s), at most 1000 of them (the code's `reorgs <= 1000`); the
    rows of blocks up to `g` are the projection of `c` (blocks below the fork), the rows above are
    whatever the orphaned batches wrote, for ANY batch sizes in effect then — if no orphaned
    position is recorded, there is no such row (`hnone`). Then ONE fault-free step with honest
    answers that matched the calls it made (`scriptOk = true`) unwinds to `g`, indexes the next
    batch of `c`, and leaves a database that satisfies the growth invariant for `c`: orphaned rows
    are gone, rows up to `g` are untouched. -/
theorem unwind_step (t : Task) (c : Chain) (db : DB) (sc : Script) (g : Cur)
    (hc : c.WF) (hsc : ScriptOK c sc) (hstart : 0 < t.start) (hb : 1 ≤ t.batch) (hcc : 1 ≤ t.conc)
    (hcb : t.conc * t.batch < 2 ^ 63) (hhead : c.head < 2 ^ 62) (hdeps : t.deps = []) (hstop : t.stop = 0)
    (hnodup : ((db.cur.filter (mineC t)).map (·.num)).Nodup)
    (hg : g ∈ db.cur.filter (mineC t))
    (hbelow : ∀ x ∈ db.cur.filter (mineC t), x.num ≤ g.num →
      t.start - 1 < x.num ∧ x.num ≤ c.head ∧ x.hash = c.hashAt x.num)
    (habove : ∀ x ∈ db.cur.filter (mineC t), g.num < x.num → x.hash ≠ c.hashAt x.num)
    (hcount : ((db.cur.filter (mineC t)).filter fun x => g.num < x.num).length ≤ 1000)
    (hrows : (db.rows.filter fun r => mine t r && decide (r.blk ≤ g.num)) =
      (c.slice t.start (g.num - (t.start - 1))).flatMap (rowsFor t))
    (hk : KeysOK t c { db with rows := db.rows.filter fun r => !(mine t r && decide (g.num < r.blk)) })
    (hnone : (∀ x ∈ db.cur.filter (mineC t), x.num ≤ g.num) → ∀ r ∈ db.rows, mine t r = true → r.blk ≤ g.num)
    (hgrow : ∀ x ∈ db.cur.filter (mineC t), x.num < c.head)
    (hhonest : (∀ a ∈ sc.latest, a = some (c.head, c.hashAt c.head)) ∧ (∀ p ∈ sc.hash, p.2 ≠ none) ∧
      (∀ q ∈ sc.gets, q.2 ≠ none)) :
    let r := converge t db sc none
    r.scriptOk = true →
    (∃ n, r.outcome = .ok n ∧ g.num < n) ∧ Inv t c (t.start - 1) r.db ∧
    (r.db.rows.filter fun r => mine t r && decide (r.blk ≤ g.num)) =
      (db.rows.filter fun r => mine t r && decide (r.blk ≤ g.num)) := by
  intro r hok
  have hu : UInv t c g ((c.slice t.start (g.num - (t.start - 1))).flatMap (rowsFor t)) db :=
    ⟨hg, hnodup, hbelow, habove, hgrow, hrows, keysOK_of_filter_mine hk, hnone⟩
  have := unwind_loop ⟨⟨hb, hcc, hcb⟩, hc, hstart, hhead⟩ hdeps hstop 1001 { db := db, view := db, script := sc }
    hu hsc ⟨hhonest.1, hhonest.2.1, hhonest.2.2⟩ (Nat.succ_le_succ hcount) hok
  exact ⟨this.1, this.2.1, this.2.2.trans hrows.symm⟩

namespace Ex

/-- a 64-hex-digit hash ending in `c` -/
def hx (c : Char) : String := String.ofList (List.replicate 63 '0' ++ [c])

theorem hx_length (c : Char) : (hx c).length = 64 := by
  rw [hx, String.length_ofList, List.length_append, List.length_replicate]; rfl

def blk (n : Nat) (h p : Char) (k : String) : Blk :=
  { num := n, hash := hx h, parent := hx p, rows := [(k, "p" ++ k)] }

def c6 : Chain :=
  ⟨[blk 0 '0' 'f' "k0", blk 1 '1' '0' "k1", blk 2 '2' '1' "k2", blk 3 '3' '2' "k3", blk 4 '4' '3' "k4",
    blk 5 '5' '4' "k5"]⟩

theorem c6_wf : c6.WF := Chain.wfb_sound c6 (by simp [c6, blk, hx_length]) (by decide +kernel)

def t1 : Task :=
  { src := "s", ig := "i", table := "tb", start := 1, stop := 0, batch := 2, conc := 2, deps := [] }

def row (b : Nat) (k : String) : TRow := { table := "tb", src := "s", ig := "i", blk := b, key := k, pay := "p" ++ k }

/-- a row of another integration in the same table -/
def foreign : TRow := { table := "tb", src := "s", ig := "other", blk := 4, key := "x4", pay := "px4" }

/-- honest answers for the first step from the empty database -/
def sc1 : Script :=
  { latest := [some (5, c6.hashAt 5)], hash := [(0, some (c6.hashAt 0))],
    gets := [((1, 1), some (c6.slice 1 1)), ((2, 1), some (c6.slice 2 1))] }

theorem sc1_ok : ScriptOK c6 sc1 := scriptOKb_sound c6 sc1 (by decide +kernel)

/- Steps are evaluated through `convergeNL` (Proofs/WorldEval.lean): the kernel is slow on `String.length`. -/

theorem sc1_len : sc1.Len64 := sc1_ok.len64 c6_wf

/-- the first step from the empty database indexes blocks 1 and 2 -/
example : (converge t1 {} sc1 none).outcome = .ok 2 ∧
    (converge t1 {} sc1 none).db =
      { cur := [{ src := "s", ig := "i", num := 2, hash := hx '2' }], rows := [row 1 "k1", row 2 "k2"] } ∧
    (converge t1 {} sc1 none).scriptOk = true := by rw [converge_eq_NL sc1_len]; decide +kernel

/-- the hypotheses of `inv_step` / `step_exact` are jointly satisfiable -/
example : Inv t1 c6 (t1.start - 1) (converge t1 {} sc1 none).db :=
  (inv_step t1 c6 {} sc1 none c6_wf sc1_ok (by decide) (by decide) (by decide) (by decide) (by decide +kernel)
    rfl (by decide +kernel) (by decide +kernel)).1

/-- a fault between the two transactions leaves the state committed by the first one -/
example : (converge t1 {} sc1 (some .insert)).outcome = .err ∧ (converge t1 {} sc1 (some .insert)).db = {} ∧
    (converge t1 {} sc1 (some .insert)).mid = some {} := by rw [converge_eq_NL sc1_len]; decide +kernel

/-! a reorg: positions 2 (canonical) and 4 (orphaned: another block 4 was indexed), rows of the
    orphaned blocks 3 and 4, and a row of another integration -/

def g2 : Cur := { src := "s", ig := "i", num := 2, hash := hx '2' }

def dbR : DB :=
  { cur := [g2, { src := "s", ig := "i", num := 4, hash := hx 'd' }],
    rows := [row 1 "k1", row 2 "k2", row 3 "o3", row 4 "o4", foreign] }

def scR : Script :=
  { latest := [some (5, c6.hashAt 5), some (5, c6.hashAt 5)], hash := [],
    gets := [((5, 1), some (c6.slice 5 1)), ((3, 1), some (c6.slice 3 1)), ((4, 1), some (c6.slice 4 1))] }

theorem scR_ok : ScriptOK c6 scR := scriptOKb_sound c6 scR (by decide +kernel)

theorem dbR_step : (converge t1 dbR scR none).outcome = .ok 4 ∧
    (converge t1 dbR scR none).db =
      { cur := [g2, { src := "s", ig := "i", num := 4, hash := hx '4' }],
        rows := [row 1 "k1", row 2 "k2", foreign, row 3 "k3", row 4 "k4"] } ∧
    (converge t1 dbR scR none).mid = some { cur := [g2], rows := [row 1 "k1", row 2 "k2", foreign] } ∧
    (converge t1 dbR scR none).scriptOk = true := by rw [converge_eq_NL (scR_ok.len64 c6_wf)]; decide +kernel

/-- one step unwinds the orphaned position and rows and indexes the canonical blocks 3 and 4;
    the other integration's row is untouched -/
example : (converge t1 dbR scR none).outcome = .ok 4 ∧
    (converge t1 dbR scR none).db =
      { cur := [g2, { src := "s", ig := "i", num := 4, hash := hx '4' }],
        rows := [row 1 "k1", row 2 "k2", foreign, row 3 "k3", row 4 "k4"] } ∧
    (converge t1 dbR scR none).mid = some { cur := [g2], rows := [row 1 "k1", row 2 "k2", foreign] } ∧
    (converge t1 dbR scR none).scriptOk = true := dbR_step

/-- the hypotheses of `unwind_step` hold for this state, so its conclusion applies -/
example : (∃ n, (converge t1 dbR scR none).outcome = .ok n ∧ g2.num < n) ∧
    Inv t1 c6 (t1.start - 1) (converge t1 dbR scR none).db :=
  have h := unwind_step t1 c6 dbR scR g2 c6_wf scR_ok (by decide) (by decide) (by decide) (by decide)
    (by decide +kernel) rfl rfl (by decide +kernel) (by decide +kernel) (by decide +kernel) (by decide +kernel)
    (by decide +kernel) (by decide +kernel) (by decide +kernel) (by decide +kernel) (by decide +kernel)
    (by decide +kernel) dbR_step.2.2.2
  ⟨h.1, h.2.1⟩

/-- the partition ranges for batch 5, concurrency 2 cover only 4 of the 5 requested blocks -/
example : parts 5 2 10 5 = [(10, 2), (12, 2)] := by decide +kernel

/-! partitions of one batch answered from different forks: block 1 of `c6`, and a block 2 whose
    parent is not block 1 of `c6` -/

def scFork : Script :=
  { latest := [some (5, c6.hashAt 5)], hash := [(0, some (c6.hashAt 0))],
    gets := [((1, 1), some (c6.slice 1 1)), ((2, 1), some [blk 2 'b' 'a' "f2"])] }

theorem scFork_len : scFork.Len64 := by
  simp only [Script.Len64, scFork, Chain.slice, c6, List.mem_cons, List.not_mem_nil, or_false, Prod.mk.injEq,
    Option.some.injEq]
  rintro p bs (⟨_, rfl⟩ | ⟨_, rfl⟩) <;> simp [blk, hx_length]

def isErr : LoadRes → Bool
  | .err => true
  | _ => false

def blocksOf : LoadRes → Option (List Blk)
  | .blocks bs => some bs
  | _ => none

/-- `load` rejects the two partitions with `.err` (all answers arrived, none failed) -/
example : isErr (load t1 { db := {}, view := {}, script := scFork } (c6.hashAt 0) 1 2).1 = true ∧
    linked (c6.slice 1 1 ++ [blk 2 'b' 'a' "f2"]) = false := by
  rw [load_eq_NL t1 scFork_len, linked_eq_linksB _ (by simp [Chain.slice, c6, blk, hx_length])]; decide +kernel

/-- the step fails with an error and commits nothing -/
example : (converge t1 {} scFork none).outcome = .err ∧ (converge t1 {} scFork none).db = {} ∧
    (converge t1 {} scFork none).mid = none ∧ (converge t1 {} scFork none).scriptOk = true := by
  rw [converge_eq_NL scFork_len]; decide +kernel

/-- honest partitions (both from `c6`) are accepted: `load` answers blocks 1 and 2 -/
example : blocksOf (load t1 { db := {}, view := {}, script := sc1 } (c6.hashAt 0) 1 2).1 = some (c6.slice 1 2) ∧
    linked (c6.slice 1 2) = true := by
  rw [load_eq_NL t1 sc1_len, linked_slice c6_wf]; decide +kernel

end Ex

end Shovel.World
