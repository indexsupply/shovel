import Shovel.Props.C17
/-
  `DecodeUint64` / `EncodeUint64` of eth/encoding.go (C17 "hex helpers with odd-length handling"; C07
  "exactly the requested block numbers": every request names its blocks through `EncodeUint64`).
-/
namespace Shovel.Codec

theorem hexCode_val (d : Nat) (h : d < 16) : hexDigitVal (hexCode d) = some d :=
  nibChar_val d h false

theorem fmtHex_spec (f n : Nat) (hn : n < 16 ^ f) (hf0 : 0 < f) :
    (∀ c ∈ fmtHex f n, IsHex c) ∧ valFrom 0 (fmtHex f n) = n ∧ (fmtHex f n).length ≤ f ∧
      fmtHex f n ≠ [] ∧ (0 < n → (fmtHex f n).head? ≠ some 48) := by
  have hex : ∀ d, d < 16 → IsHex (hexCode d) := fun d hd => by simp [IsHex, hexCode_val d hd]
  fun_induction fmtHex f n with
  | case1 => omega
  | case2 f n h16 =>
    refine ⟨by simpa using hex n h16, by simp [valFrom, hexCode_val n h16], by simp, by simp,
      fun h0 => ?_⟩
    simp only [List.head?_cons, hexCode]
    split <;> (intro h; injection h; omega)
  | case3 f n h16 ih =>
    have hf : 0 < f := by
      cases f with
      | zero => simp at hn; omega
      | succ _ => omega
    obtain ⟨a, v, l, ne, hd⟩ := ih
      (Nat.div_lt_of_lt_mul (by rwa [Nat.pow_succ, Nat.mul_comm] at hn)) hf
    have hm : n % 16 < 16 := Nat.mod_lt _ (by omega)
    refine ⟨?_, ?_, by simp; omega, by simp, fun _ => ?_⟩
    · simpa [or_imp, forall_and] using ⟨a, hex _ hm⟩
    · simp only [valFrom, List.foldl_append, List.foldl_cons, List.foldl_nil, hexCode_val _ hm,
        Option.getD_some] at v ⊢
      omega
    · cases hx : fmtHex f (n / 16) with
      | nil => exact absurd hx ne
      | cons a rest => simpa [hx] using hd (by omega)

theorem strip0xN_hex (cs : List Nat) (hall : ∀ c ∈ cs, IsHex c) : strip0xN cs = cs := by
  unfold strip0xN
  split
  · exact absurd (hall 120 (by simp)) (by decide)
  · exact absurd (hall 88 (by simp)) (by decide)
  · rfl

theorem parseUint16_hex (cs : List Nat) (hne : cs ≠ []) (hall : ∀ c ∈ cs, IsHex c) :
    parseUint16 cs = if hexVal cs < U64 then .ok (hexVal cs) else .err := by
  have h1 : cs.isEmpty = false := by cases cs <;> simp_all
  have h2 : cs.all (fun c => (hexDigitVal c).isSome) = true := List.all_eq_true.2 hall
  simp only [parseUint16, h1, h2, Bool.false_eq_true, if_false, if_true]
  rfl

/-- without a prefix: `ParseUint` gets `cs`, or `0 :: cs` when their number is odd — the same value,
    still hex, not empty -/
theorem decodeUint64_digits (cs : List Nat) (hne : cs ≠ []) (hall : ∀ c ∈ cs, IsHex c) :
    decodeUint64 cs = if hexVal cs < U64 then .ok (hexVal cs) else .panic := by
  simp only [decodeUint64, strip0xN_hex cs hall]
  generalize hds : (if (cs.length % 2 == 1) = true then 48 :: cs else cs) = ds
  have h : ds ≠ [] ∧ (∀ c ∈ ds, IsHex c) ∧ hexVal ds = hexVal cs := by
    subst hds; split
    · exact ⟨by simp, List.forall_mem_cons.2 ⟨by decide, hall⟩, by simp [hexVal, valFrom, show hexDigitVal 48 = some 0 by decide]⟩
    · exact ⟨hne, hall, rfl⟩
  rw [parseUint16_hex ds h.1 h.2.1, h.2.2]
  by_cases hv : hexVal cs < U64 <;> simp only [hv, if_true, if_false]

/-- **decodeUint64_exact** (C17): any spelling of a value that fits 64 bits — with `0x`, `0X` or no prefix,
    either letter case, leading zeros, odd or even digit count — decodes to exactly that value -/
theorem decodeUint64_exact (cs pre : List Nat) (hne : cs ≠ []) (hall : ∀ c ∈ cs, IsHex c)
    (hfit : hexVal cs < 2 ^ 64) (hpre : pre = [] ∨ pre = [48, 120] ∨ pre = [48, 88]) :
    decodeUint64 (pre ++ cs) = .ok (hexVal cs) := by
  -- a prefix is stripped, and `cs` itself does not begin with one
  have key : decodeUint64 (pre ++ cs) = decodeUint64 cs := by
    have e : strip0xN (pre ++ cs) = strip0xN cs := by
      rcases hpre with rfl | rfl | rfl <;> first | rfl | exact (strip0xN_hex cs hall).symm
    simp only [decodeUint64, e]
  rw [key, decodeUint64_digits cs hne hall]
  exact if_pos hfit

/-- **decodeUint64_overflow** (C17): a value that does not fit 64 bits makes the helper panic (never a
    truncated number) -/
theorem decodeUint64_overflow (cs : List Nat) (hne : cs ≠ []) (hall : ∀ c ∈ cs, IsHex c)
    (hbig : 2 ^ 64 ≤ hexVal cs) : decodeUint64 cs = .panic := by
  rw [decodeUint64_digits cs hne hall]
  exact if_neg (Nat.not_lt.2 hbig)

/-- **encodeUint64_canonical** (C17, C07): `0x`, then hex digits whose value is `n`, at most 16 of them,
    without a leading zero unless `n = 0` (then the single digit `0`) -/
theorem encodeUint64_canonical (n : Nat) (hn : n < 2 ^ 64) :
    ∃ ds, encodeUint64 n = 48 :: 120 :: ds ∧ ds ≠ [] ∧ (∀ c ∈ ds, IsHex c) ∧ hexVal ds = n ∧
      ds.length ≤ 16 ∧ (0 < n → ds.head? ≠ some 48) ∧ (n = 0 → ds = [48]) := by
  obtain ⟨a, v, l, ne, hd⟩ := fmtHex_spec 16 n hn (by decide)
  exact ⟨fmtHex 16 n, rfl, ne, a, v, l, hd, fun h0 => by subst h0; rfl⟩

/-- **encodeUint64_roundtrip** (C17): what the client writes into a request is read back as the same number -/
theorem encodeUint64_roundtrip (n : Nat) (hn : n < 2 ^ 64) : decodeUint64 (encodeUint64 n) = .ok n := by
  obtain ⟨ds, h1, h2, h3, h4, -⟩ := encodeUint64_canonical n hn
  rw [h1, ← h4]
  exact decodeUint64_exact ds [48, 120] h2 h3 (h4 ▸ hn) (.inr (.inl rfl))

example : encodeUint64 0 = [48, 120, 48] := by decide +kernel
example : encodeUint64 18000000 = "0x112a880".toUTF8.toList.map (·.toNat) := by decide +kernel
example : decodeUint64 ("0x1".toUTF8.toList.map (·.toNat)) = .ok 1 := by decide +kernel
example : decodeUint64 ("0X00Ff".toUTF8.toList.map (·.toNat)) = .ok 255 := by decide +kernel
example : decodeUint64 ("".toUTF8.toList.map (·.toNat)) = .panic := by decide +kernel
example : decodeUint64 ("0x1g".toUTF8.toList.map (·.toNat)) = .panic := by decide +kernel
example : decodeUint64 ("10000000000000000".toUTF8.toList.map (·.toNat)) = .panic := by decide +kernel

end Shovel.Codec

#print axioms Shovel.Codec.encodeUint64_roundtrip
#print axioms Shovel.Codec.encodeUint64_canonical
#print axioms Shovel.Codec.decodeUint64_exact
#print axioms Shovel.Codec.decodeUint64_overflow
