import Shovel.Model.Schema
import Shovel.Gen.Routes
/-
  C16: schema generation (AddRequiredFields / AddUniqueIndex / union / ValidateColRefs).
  All proofs go through the GENERATED tables `Shovel.Gen.Config.required` and
  `Shovel.Gen.Config.possible`: the theorems spell out the entries they rely on, so an edit of the
  Go source that changes a table no longer checks. `print_schema_is_ddl`: what `-print-schema` prints is
  that schema (over `Gen.Routes`).
-/
namespace Shovel.Schema
open Shovel.Gen.Config

def blockNames (ig : Ig) : List String := ig.block.map (·.1)

theorem any_of_mem_blockNames {ig : Ig} {n : String} (h : n ∈ blockNames ig) :
    ig.block.any (·.1 == n) = true := by
  obtain ⟨p, hp, rfl⟩ := List.mem_map.1 h
  exact List.any_eq_true.2 ⟨p, hp, by simp⟩

structure Ext (ig ig' : Ig) : Prop where
  selInputs : ig'.selInputs = ig.selInputs
  unique : ig'.unique = ig.unique
  block : ∀ p ∈ ig.block, p ∈ ig'.block
  cols : ∀ c ∈ ig.cols, c ∈ ig'.cols

theorem Ext.refl (ig : Ig) : Ext ig ig := ⟨rfl, rfl, fun _ h => h, fun _ h => h⟩

theorem Ext.trans {a b c : Ig} (h₁ : Ext a b) (h₂ : Ext b c) : Ext a c :=
  ⟨h₂.1.trans h₁.1, h₂.2.trans h₁.2, fun p hp => h₂.3 p (h₁.3 p hp), fun x hx => h₂.4 x (h₁.4 x hx)⟩

theorem Ext.blockNames {ig ig' : Ig} (h : Ext ig ig') {n : String} (hn : n ∈ blockNames ig) :
    n ∈ Schema.blockNames ig' := by
  obtain ⟨p, hp, rfl⟩ := List.mem_map.1 hn
  exact List.mem_map.2 ⟨p, h.block p hp, rfl⟩

theorem addField_spec (ig : Ig) (n : String) :
    Ext ig (addField ig n) ∧ n ∈ blockNames (addField ig n) ∧ n ∈ (addField ig n).cols := by
  simp only [addField, blockNames]
  split <;> split <;> rename_i hb hc
  all_goals
    simp only [List.any_eq_true, beq_iff_eq, List.contains_iff_mem] at hb hc
    refine ⟨⟨rfl, rfl, fun _ h => ?_, fun _ h => ?_⟩, ?_, ?_⟩ <;> simp [*]

theorem ite_mono {c : Prop} [Decidable c] {a a' b b' : Bool} (ha : a = true → a' = true)
    (hb : b = true → b' = true) : (if c then a else b) = true → (if c then a' else b') = true := by
  split <;> assumption

/-- a guard reads only the selected inputs (which `add` leaves alone) and whether some block field
    has a given form (there are only more of them) -/
theorem guard_mono {ig ig' : Ig} (h : Ext ig ig') (g : String) (hg : guardHolds ig g = true) :
    guardHolds ig' g = true := by
  have hb : ∀ f, ig.block.any f = true → ig'.block.any f = true := fun f hf =>
    have ⟨p, hp, hfp⟩ := List.any_eq_true.1 hf
    List.any_eq_true.2 ⟨p, h.block p hp, hfp⟩
  revert hg
  unfold guardHolds
  rw [h.selInputs]
  exact ite_mono id (ite_mono id (ite_mono id (ite_mono (hb _) id)))

theorem guardHolds_always (ig : Ig) : guardHolds ig "" = true := by simp [guardHolds]

theorem guardHolds_selected (ig : Ig) :
    guardHolds ig "if:len(ig.Event.Selected()) > 0" = !ig.selInputs.isEmpty := by
  simp [guardHolds]

theorem guardHolds_unindexed (ig : Ig) :
    guardHolds ig "range:ig.Event.Selected() if:!inp.Indexed" = ig.selInputs.any (fun p => !p.1) := by
  simp [guardHolds]

theorem guardHolds_trace (ig : Ig) :
    guardHolds ig "range:ig.Block if:strings.HasPrefix(bd.Name, \"trace_\")" =
      ig.block.any (fun p => p.1.startsWith "trace_") := by
  simp [guardHolds]

/-- the lambda of `addRequired` (Model/Schema.lean), named so that lemmas can speak of one step -/
def step (ig : Ig) (r : String × String × String) : Ig :=
  if guardHolds ig r.2.2 then addField ig r.1 else ig

theorem step_ext (ig : Ig) (r : String × String × String) : Ext ig (step ig r) := by
  unfold step; split
  · exact (addField_spec ig r.1).1
  · exact Ext.refl ig

theorem foldl_ext (l : List (String × String × String)) (ig : Ig) : Ext ig (l.foldl step ig) := by
  induction l generalizing ig with
  | nil => exact Ext.refl ig
  | cons r l ih => exact (step_ext ig r).trans (ih _)

theorem foldl_adds (l : List (String × String × String)) (ig : Ig) :
    ∀ r ∈ l, guardHolds ig r.2.2 = true →
      r.1 ∈ blockNames (l.foldl step ig) ∧ r.1 ∈ (l.foldl step ig).cols := by
  induction l generalizing ig with
  | nil => simp
  | cons a l ih =>
    rw [List.forall_mem_cons, List.foldl_cons]
    refine ⟨fun hg => ?_, fun r hr hg => ih _ r hr (guard_mono (step_ext ig a) _ hg)⟩
    have he := foldl_ext l (step ig a)
    obtain ⟨_, hb, hc⟩ := addField_spec ig a.1
    rw [step, if_pos hg] at he ⊢
    exact ⟨he.blockNames hb, he.cols _ hc⟩

theorem addRequired_eq (ig : Ig) : addRequired ig = required.foldl step ig := rfl

theorem addRequired_ext (ig : Ig) : Ext ig (addRequired ig) := foldl_ext _ _

/-- `AddRequiredFields` with the guards of the table resolved -/
theorem addRequired_steps (ig : Ig) : addRequired ig =
    (let ig := addField (addField (addField (addField ig "ig_name") "src_name") "block_num") "tx_idx"
     let ig := if !ig.selInputs.isEmpty then addField ig "log_idx" else ig
     let ig := if ig.selInputs.any (fun p => !p.1) then addField ig "abi_idx" else ig
     if ig.block.any (fun p => p.1.startsWith "trace_") then addField ig "trace_action_idx" else ig) := by
  simp only [addRequired_eq, required, List.foldl_cons, List.foldl_nil, step, guardHolds_always,
    guardHolds_selected, guardHolds_unindexed, guardHolds_trace, if_true]

/-- **identity_added** (C16): AddRequiredFields adds the identity fields of the integration's
    shape as block fields AND as table columns. -/
theorem identity_added (ig : Ig) :
    let ig' := addRequired ig
    (∀ n ∈ ["ig_name", "src_name", "block_num", "tx_idx"], n ∈ blockNames ig' ∧ n ∈ ig'.cols) ∧
    (ig.selInputs ≠ [] → "log_idx" ∈ blockNames ig' ∧ "log_idx" ∈ ig'.cols) ∧
    ((∃ p ∈ ig.selInputs, p.1 = false) → "abi_idx" ∈ blockNames ig' ∧ "abi_idx" ∈ ig'.cols) ∧
    ((∃ p ∈ ig.block, p.1.startsWith "trace_" = true) → "trace_action_idx" ∈ blockNames ig' ∧ "trace_action_idx" ∈ ig'.cols) ∧
    (∀ c ∈ ig.cols, c ∈ ig'.cols) ∧ (∀ p ∈ ig.block, p ∈ ig'.block) ∧ ig'.selInputs = ig.selInputs := by
  intro ig'
  have hext : Ext ig ig' := addRequired_ext ig
  -- `foldl_adds` for the table, entry by entry in the table's order (no entry is looked up: comparing
  -- the long guard strings is what is slow to check)
  have h := foldl_adds required ig
  simp only [required, List.forall_mem_cons] at h
  obtain ⟨h1, h2, h3, h4, hlog, habi, htrace, -⟩ := h
  refine ⟨?_, ?_, ?_, ?_, hext.cols, hext.block, hext.selInputs⟩
  · have g := guardHolds_always ig
    simp only [List.forall_mem_cons]
    exact ⟨h1 g, h2 g, h3 g, h4 g, nofun⟩
  · intro hs
    refine hlog ?_
    rw [guardHolds_selected]
    cases h : ig.selInputs with
    | nil => exact absurd h hs
    | cons a l => rfl
  · rintro ⟨p, hp, hpf⟩
    refine habi ?_
    rw [guardHolds_unindexed]
    exact List.any_eq_true.2 ⟨p, hp, by simp [hpf]⟩
  · rintro ⟨p, hp, hpt⟩
    refine htrace ?_
    rw [guardHolds_trace]
    exact List.any_eq_true.2 ⟨p, hp, hpt⟩

theorem colRefsOK_iff (ig : Ig) : colRefsOK ig = true ↔
    (ig.cols.eraseDups.length = ig.cols.length ∧
     (∀ p ∈ ig.selInputs, p.2 ∈ ig.cols) ∧
     (∀ p ∈ ig.block, p.2.isEmpty = false ∧ p.2 ∈ ig.cols) ∧
     (∀ c ∈ ig.notify, c ∈ ig.cols)) := by
  unfold colRefsOK
  simp only [Bool.and_eq_true, List.all_eq_true, List.contains_iff_mem, beq_iff_eq,
    Bool.not_eq_true', and_assoc]

/-- **columns_exist** (C16): a configuration accepted by ValidateColRefs has a table column for
    every column the integration writes and for every notification column. -/
theorem columns_exist (ig : Ig) (h : colRefsOK ig = true) :
    (∀ c ∈ written ig, c ∈ ig.cols) ∧ (∀ c ∈ ig.notify, c ∈ ig.cols) := by
  obtain ⟨_, hs, hb, hn⟩ := (colRefsOK_iff ig).1 h
  refine ⟨?_, hn⟩
  intro c hc
  unfold written at hc
  rcases List.mem_append.1 hc with hc | hc
  · obtain ⟨p, hp, rfl⟩ := List.mem_map.1 hc; exact hs p hp
  · obtain ⟨p, hp, rfl⟩ := List.mem_map.1 hc; exact (hb p hp).2

/-- **rejects_missing** (C16): a configuration that lacks a column for a selected input, a block
    field or a notification column (or has an empty block column name) is rejected. -/
theorem rejects_missing (ig : Ig)
    (h : (∃ p ∈ ig.selInputs, p.2 ∉ ig.cols) ∨ (∃ p ∈ ig.block, p.2 ∉ ig.cols ∨ p.2 = "") ∨ (∃ c ∈ ig.notify, c ∉ ig.cols)) :
    colRefsOK ig = false := by
  cases hok : colRefsOK ig with
  | false => rfl
  | true =>
    exfalso
    obtain ⟨_, hs, hb, hn⟩ := (colRefsOK_iff ig).1 hok
    rcases h with ⟨p, hp, hm⟩ | ⟨p, hp, hm | he⟩ | ⟨c, hc, hm⟩
    · exact hm (hs p hp)
    · exact hm (hb p hp).2
    · have := (hb p hp).1
      rw [he] at this
      exact absurd this (by decide)
    · exact hm (hn c hc)

/-- **union_covers** (C16): shared tables get the union of the columns -/
theorem union_covers (a b : List String) : ∀ c, (c ∈ a ∨ c ∈ b) → c ∈ union a b := by
  intro c hc
  unfold union
  by_cases ha : c ∈ a
  · exact List.mem_append.2 (Or.inl ha)
  · rcases hc with hc | hc
    · exact absurd hc ha
    · refine List.mem_append.2 (Or.inr (List.mem_filter.2 ⟨hc, ?_⟩))
      simp [ha]

theorem addUnique_eq (ig : Ig) (hu : ig.unique = []) (hc : "ig_name" ∈ ig.cols) :
    addUnique ig = { ig with unique := [possible.filter ig.cols.contains] } := by
  have hmem : "ig_name" ∈ possible.filter ig.cols.contains :=
    List.mem_filter.2 ⟨List.mem_cons_self, List.contains_iff_mem.2 hc⟩
  have hne : (possible.filter ig.cols.contains).isEmpty = false := by
    cases hf : possible.filter ig.cols.contains with
    | nil => rw [hf] at hmem; cases hmem
    | cons a l => rfl
  unfold addUnique
  simp only [hu, List.isEmpty_nil, Bool.not_true, Bool.false_eq_true, if_false, hne]

/-- the numeric identity columns, each with the component of a row identity it holds -/
def numCols : List (String × (RowId → Nat)) :=
  [("block_num", (·.blk)), ("tx_idx", (·.tx)), ("log_idx", (·.log)), ("abi_idx", (·.abi)),
   ("trace_action_idx", (·.trace))]

theorem possible_eq : possible = "ig_name" :: "src_name" :: numCols.map (·.1) := rfl

theorem RowId.eq_of_numCols {r r' : RowId} (h : ∀ p ∈ numCols, p.2 r = p.2 r') : r = r' := by
  simp only [numCols, List.forall_mem_cons] at h
  obtain ⟨h1, h2, h3, h4, h5, -⟩ := h
  cases r; cases r'
  simp only at h1 h2 h3 h4 h5
  subst h1 h2 h3 h4 h5
  rfl

theorem keyCol_num {ig : Ig} (src igName : String) (r : RowId) :
    ∀ p ∈ numCols, p.1 ∈ blockNames ig → keyCol ig src p.1 igName r = some (.n (p.2 r)) := by
  simp only [numCols, List.forall_mem_cons]
  refine ⟨?_, ?_, ?_, ?_, ?_, nofun⟩ <;> exact fun h => by simp [keyCol, any_of_mem_blockNames h]

theorem keyCol_ne_none {ig : Ig} (src igName : String) (r : RowId) {c : String} (hc : c ∈ possible)
    (hb : c ∈ blockNames ig) : keyCol ig src c igName r ≠ none := by
  rw [possible_eq] at hc
  rcases List.mem_cons.1 hc with rfl | hc
  · simp [keyCol, any_of_mem_blockNames hb]
  rcases List.mem_cons.1 hc with rfl | hc
  · simp [keyCol, any_of_mem_blockNames hb]
  obtain ⟨p, hp, rfl⟩ := List.mem_map.1 hc
  simp [keyCol_num src igName r p hp hb]

/-- core of `key_separates`, over an arbitrary result `R` of AddRequiredFields: two rows agree on a
    numeric component, or its column is a field `R` writes and a column of the table -/
theorem key_core (R : Ig) (src igName : String) (r r' : RowId) (hRu : R.unique = [])
    (hig : "ig_name" ∈ R.cols)
    (hnum : ∀ p ∈ numCols, p.2 r = p.2 r' ∨ (p.1 ∈ blockNames R ∧ p.1 ∈ R.cols))
    (hown : ∀ c ∈ (addUnique R).unique.headD [], c ∈ blockNames R) :
    (∀ c ∈ (addUnique R).unique.headD [], keyCol (addUnique R) src c igName r ≠ none) ∧
    ((∀ c ∈ (addUnique R).unique.headD [],
        keyCol (addUnique R) src c igName r = keyCol (addUnique R) src c igName r') → r = r') := by
  rw [addUnique_eq R hRu hig] at hown ⊢
  -- `keyCol` reads only the block fields, which `addUnique` leaves alone
  change ∀ c ∈ possible.filter R.cols.contains, c ∈ blockNames R at hown
  change (∀ c ∈ possible.filter R.cols.contains, keyCol R src c igName r ≠ none) ∧
    ((∀ c ∈ possible.filter R.cols.contains, keyCol R src c igName r = keyCol R src c igName r') →
      r = r')
  refine ⟨fun c hc => keyCol_ne_none src igName r (List.mem_filter.1 hc).1 (hown c hc),
    fun hagree => RowId.eq_of_numCols fun p hp => ?_⟩
  rcases hnum p hp with h | ⟨hb, hc⟩
  · exact h
  · have hpos : p.1 ∈ possible := by
      rw [possible_eq]
      exact List.mem_cons_of_mem _ (List.mem_cons_of_mem _ (List.mem_map.2 ⟨p, hp, rfl⟩))
    have := hagree p.1 (List.mem_filter.2 ⟨hpos, List.contains_iff_mem.2 hc⟩)
    rw [keyCol_num src igName r p hp hb, keyCol_num src igName r' p hp hb] at this
    exact KeyVal.n.inj (Option.some.inj this)

/-- **key_separates** (C16): with the generated unique key, when every key column is a field the
    integration itself writes (`hown`: no foreign identity column, e.g. from a differently shaped
    integration sharing the table), two emitted rows that agree on all key columns come from the
    same item, and every key column of an emitted row is non-NULL (so re-emitting the same block
    collides). Row identities use 0 for the components their shape does not have. -/
theorem key_separates (ig : Ig) (src igName : String) (hu : ig.unique = [])
    (r r' : RowId)
    (hshape : (ig.selInputs = [] → r.log = 0 ∧ r'.log = 0) ∧
              ((∀ p ∈ ig.selInputs, p.1 = true) → r.abi = 0 ∧ r'.abi = 0) ∧
              ((∀ p ∈ ig.block, p.1.startsWith "trace_" = false) → r.trace = 0 ∧ r'.trace = 0))
    (hown : ∀ c ∈ (addUnique (addRequired ig)).unique.headD [], c ∈ blockNames (addRequired ig)) :
    let ig' := addUnique (addRequired ig)
    let u := ig'.unique.headD []
    (∀ c ∈ u, keyCol ig' src c igName r ≠ none) ∧
    ((∀ c ∈ u, keyCol ig' src c igName r = keyCol ig' src c igName r') → r = r') := by
  obtain ⟨hbase, hlog, habi, htrace, -⟩ := identity_added ig
  simp only [List.forall_mem_cons] at hbase
  obtain ⟨hig, -, hblk, htx, -⟩ := hbase
  have hRu : (addRequired ig).unique = [] := (addRequired_ext ig).unique.trans hu
  refine key_core (addRequired ig) src igName r r' hRu hig.2 ?_ hown
  -- a component the shape has is a key column; one it does not have is 0 in both rows
  simp only [numCols, List.forall_mem_cons]
  refine ⟨.inr hblk, .inr htx, ?_, ?_, ?_, nofun⟩
  · by_cases hs : ig.selInputs = []
    · have ⟨h1, h2⟩ := hshape.1 hs
      exact .inl (h1.trans h2.symm)
    · exact .inr (hlog hs)
  · by_cases hs : ∃ p ∈ ig.selInputs, p.1 = false
    · exact .inr (habi hs)
    · have ⟨h1, h2⟩ := hshape.2.1 fun p hp => Bool.of_not_eq_false fun h => hs ⟨p, hp, h⟩
      exact .inl (h1.trans h2.symm)
  · by_cases hs : ∃ p ∈ ig.block, p.1.startsWith "trace_" = true
    · exact .inr (htrace hs)
    · have ⟨h1, h2⟩ := hshape.2.2 fun p hp => Bool.of_not_eq_true fun h => hs ⟨p, hp, h⟩
      exact .inl (h1.trans h2.symm)

/-- **print_schema_is_ddl** (C16): the schema the program PRINTS (`shovel -print-schema`, the route taken with
    `-skip-migrate`) is what `config.DDL` computes for the whole configuration — the merged definitions
    `union_covers` is about — and nothing else: the flag's block ranges over exactly that expression. -/
theorem print_schema_is_ddl : Shovel.Gen.Routes.printSchemaRanges = ["config.DDL(conf)"] := rfl

/-- an ERC-20 Transfer-like integration selecting `to` (indexed) and `value` (not indexed) -/
def transferIg : Ig :=
  { block := [("block_time", "block_time")]
    cols := ["ev_to", "ev_value", "block_time"]
    selInputs := [(true, "ev_to"), (false, "ev_value")] }

/-- evaluated once, from `addRequired_steps` (comparing the guard strings is slow to check): the
    examples about the Transfer integration start from this value -/
theorem addRequired_transferIg : addRequired transferIg =
    { transferIg with
      block := [("block_time", "block_time"), ("ig_name", "ig_name"), ("src_name", "src_name"),
        ("block_num", "block_num"), ("tx_idx", "tx_idx"), ("log_idx", "log_idx"), ("abi_idx", "abi_idx")]
      cols := ["ev_to", "ev_value", "block_time", "ig_name", "src_name", "block_num", "tx_idx",
        "log_idx", "abi_idx"] } := by
  rw [addRequired_steps]; decide +kernel

example : (addUnique (addRequired transferIg)).unique =
    [["ig_name", "src_name", "block_num", "tx_idx", "log_idx", "abi_idx"]] := by
  rw [addRequired_transferIg]; decide +kernel

example : colRefsOK (addUnique (addRequired transferIg)) = true := by
  rw [addRequired_transferIg]; decide +kernel

/-- `hown` of `key_separates` holds for the Transfer integration -/
theorem transfer_hown : ∀ c ∈ (addUnique (addRequired transferIg)).unique.headD [],
    c ∈ blockNames (addRequired transferIg) := by
  rw [addRequired_transferIg]; decide +kernel

/-- `key_separates` instantiated: all hypotheses are satisfiable by a real integration -/
example (r r' : RowId) (ht : r.trace = 0 ∧ r'.trace = 0)
    (hagree : ∀ c ∈ (addUnique (addRequired transferIg)).unique.headD [],
      keyCol (addUnique (addRequired transferIg)) "mainnet" c "erc20" r =
      keyCol (addUnique (addRequired transferIg)) "mainnet" c "erc20" r') : r = r' :=
  (key_separates transferIg "mainnet" "erc20" rfl r r'
    ⟨fun h => absurd h (by decide), fun h => absurd h (by decide), fun _ => ht⟩
    transfer_hown).2 hagree

/-- a transaction-shaped integration (no event) writing into the table shared with `transferIg`:
    the shared table already has the `log_idx` / `abi_idx` columns of the other shape -/
def txSharedIg : Ig :=
  { block := [("tx_hash", "tx_hash")]
    cols := union ["tx_hash"] (addRequired transferIg).cols
    selInputs := [] }

example : "log_idx" ∈ txSharedIg.cols :=
  union_covers _ _ _ (.inr ((identity_added transferIg).2.1 (by decide)).2)

theorem addRequired_txSharedIg : addRequired txSharedIg =
    { txSharedIg with
      block := [("tx_hash", "tx_hash"), ("ig_name", "ig_name"), ("src_name", "src_name"),
        ("block_num", "block_num"), ("tx_idx", "tx_idx")]
      cols := ["tx_hash", "ev_to", "ev_value", "block_time", "ig_name", "src_name", "block_num",
        "tx_idx", "log_idx", "abi_idx"] } := by
  rw [addRequired_steps]; unfold txSharedIg; rw [addRequired_transferIg]; decide +kernel

/-- the generated key of the tx-shaped integration contains the foreign `log_idx`/`abi_idx` -/
example : (addUnique (addRequired txSharedIg)).unique =
    [["ig_name", "src_name", "block_num", "tx_idx", "log_idx", "abi_idx"]] := by
  rw [addRequired_txSharedIg]; decide +kernel

/-- ... so `hown` FAILS for it ... -/
example : ¬ (∀ c ∈ (addUnique (addRequired txSharedIg)).unique.headD [],
    c ∈ blockNames (addRequired txSharedIg)) := by
  rw [addRequired_txSharedIg]; decide +kernel

/-- ... and the key column `log_idx` of every row it emits is NULL (mixed-shape shared table):
    the conclusion of `key_separates` is false there, i.e. `hown` is needed. -/
example : keyCol (addUnique (addRequired txSharedIg)) "mainnet" "log_idx" "txs" ⟨1, 2, 0, 0, 0⟩ = none := by
  rw [addRequired_txSharedIg]; decide +kernel

example : ¬ (∀ c ∈ (addUnique (addRequired txSharedIg)).unique.headD [],
    keyCol (addUnique (addRequired txSharedIg)) "mainnet" c "txs" ⟨1, 2, 0, 0, 0⟩ ≠ none) := by
  rw [addRequired_txSharedIg]; decide +kernel

/-- a trace-shaped integration gets `trace_action_idx` in its key -/
example : (addUnique (addRequired
      { block := [("trace_action_value", "v")], cols := ["v"], selInputs := [] })).unique =
    [["ig_name", "src_name", "block_num", "tx_idx", "trace_action_idx"]] := by
  rw [addRequired_steps]; decide +kernel

/-- ValidateColRefs rejects a selected input without a column -/
example : colRefsOK { transferIg with cols := ["ev_to", "block_time"] } = false := by decide +kernel

end Shovel.Schema
