import Shovel.Gen.Code
import Shovel.Model.Safe
import Shovel.Model.Codec
import Shovel.Model.Row
/-
  Tie T3 — the TRANSLATED leaf functions equal the hand-written models.
  `Gen/Code.lean` is regenerated from the Go function bodies on every run (harness/cmd/extract/translate.go);
  each theorem below states that the regenerated definition computes exactly what the model the property
  theorems speak about computes — for every input. An edit of the Go function that changes its behaviour
  changes the generated definition and the equality no longer checks.

    wstrings.Safe            = Safe.safe                    (C15)
    bint.Decode              = Codec.bdecode                (C17)
    bint.size                = Codec.size                   (C17)   [fuel: nine iterations suffice below 2^64]
    eth.decode               = Codec.decode                 (C17)
    filterResults.add/accept = Row.Frs.add / Frs.accept     (C12)
-/
namespace Shovel.Code
open Shovel.Gen.Code

/-- `unicode.IsLetter` / `unicode.IsDigit` as the model sees them: exact on ASCII, the opaque class
    `uni` beyond -/
structure UnicodeAs (uni isLetter isDigit : Nat → Bool) : Prop where
  ascii : ∀ c, c < 128 → isLetter c = Safe.asciiLetter c ∧ isDigit c = Safe.asciiDigit c
  beyond : ∀ c, 128 ≤ c → (isLetter c || isDigit c) = uni c

theorem safe_body (uni isLetter isDigit : Nat → Bool) (h : UnicodeAs uni isLetter isDigit) (s : List Nat) (r : Nat) :
    safe.loop1.body isLetter isDigit s r () = if Safe.identChar uni r then Ctl.next () else Ctl.ret Res.err := by
  unfold safe.loop1.body Safe.identChar
  by_cases hr : r < 128
  · obtain ⟨h1, h2⟩ := h.ascii r hr
    simp only [h1, h2, hr, if_true]
    generalize (Safe.asciiLetter r || Safe.asciiDigit r || r == 95 || r == 45) = ok
    cases ok <;> rfl
  · have hb := h.beyond r (by omega)
    have h95 : (r == 95) = false := by simp; omega
    have h45 : (r == 45) = false := by simp; omega
    simp only [hr, if_false, h95, h45, Bool.or_false, hb]
    cases uni r <;> rfl

/-- the loop, followed by what `Safe` does with its outcome -/
theorem safe_loop (uni isLetter isDigit : Nat → Bool) (h : UnicodeAs uni isLetter isDigit) (s : List Nat) :
    ∀ l : List Nat, (match safe.loop1 isLetter isDigit s l () with
        | Ctl.ret r => r
        | Ctl.next () => Res.ok ()) =
      if l.all (Safe.identChar uni) then Res.ok () else Res.err
  | [] => rfl
  | r :: rest => by
    rw [safe.loop1, safe_body uni isLetter isDigit h, List.all_cons]
    cases Safe.identChar uni r
    · rfl
    · exact safe_loop uni isLetter isDigit h s rest

/-- **safe_eq** (C15): the translated `wstrings.Safe` accepts exactly the strings of the model -/
theorem safe_eq (uni isLetter isDigit : Nat → Bool) (h : UnicodeAs uni isLetter isDigit) (s : List Nat) :
    Gen.Code.safe isLetter isDigit s = if Safe.safe uni s then Res.ok () else Res.err :=
  safe_loop uni isLetter isDigit h s s

theorem bintDecode_loop (b : List Nat) : ∀ (l : List Nat) (n : Nat),
    bintDecode.loop1 b l n = Ctl.next (l.foldl (fun n x => ((n <<< 8) % Codec.U64 + x) % Codec.U64) n)
  | [], n => rfl
  | x :: rest, n => by
    rw [bintDecode.loop1, bintDecode.loop1.body, List.foldl_cons, Nat.shiftLeft_eq]
    exact bintDecode_loop b rest _

/-- **bintDecode_eq** (C17): the translated `bint.Decode` is the model's big-endian fold -/
theorem bintDecode_eq (b : List Nat) : Gen.Code.bintDecode b = Codec.bdecode b := by
  simp only [Gen.Code.bintDecode, Codec.bdecode, bintDecode_loop]

-- `p`: the generated loop's first parameter (the argument of `size`), which its body never reads
theorem bintSize_loop (p f n s : Nat) (hn : n < 256 ^ f) (hs : s + f ≤ 255) :
    bintSize.loop1 p (f + 1) (n, s) = some (Ctl.next (0, Codec.sizeLoop f n s)) := by
  fun_induction Codec.sizeLoop f n s with
  | case1 n s =>
    obtain rfl : n = 0 := by simpa using hn
    rfl
  | case2 f n s h0 ih =>
    rw [bintSize.loop1]
    simp only [bintSize.loop1.cond, bintSize.loop1.body, decide_eq_true_eq, h0, if_true]
    -- the counter is a `uint8`; it stays below 256
    rw [Nat.mod_eq_of_lt (by omega : s + 1 < 256)]
    exact ih (Nat.div_lt_of_lt_mul (by rwa [Nat.pow_succ, Nat.mul_comm] at hn)) (by omega)
  | case3 f n s h0 =>
    obtain rfl : n = 0 := by omega
    rfl

/-- **bintSize_eq** (C17): with nine units of fuel the translated `bint.size` never runs out and is the
    model's size, for every 64-bit value -/
theorem bintSize_eq (n : Nat) (hn : n < 2 ^ 64) : Gen.Code.bintSize 9 n = Codec.size n := by
  unfold Gen.Code.bintSize Codec.size
  by_cases h0 : n = 0
  · simp [h0]
  · have hb : (n == 0) = false := by simpa using h0
    simp only [hb, Bool.false_eq_true, if_false, h0]
    simp only [bintSize_loop n 8 n 0 (by simpa using hn) (by omega)]

theorem byte_sub {x k : Nat} (h1 : k ≤ x) (h2 : x < k + 256) : (x + 256 - k) % 256 = x - k := by
  rw [Nat.sub_add_comm h1, Nat.add_mod_right, Nat.mod_eq_of_lt (by omega)]

/-- one iteration is the model's step; Go's `byte(x - '0')`, `byte(x - 'a') + 10` are computed mod 256 -/
theorem hexDecode_body (b : List Nat) (x res : Nat) :
    hexDecode.loop1.body b x res =
      match hexDigitVal x with
      | none => Ctl.ret Res.err
      | some nib => if res / 2 ^ 60 ≠ 0 then Ctl.ret Res.err
                    else Ctl.next (((res <<< 4) % Codec.U64) ||| nib) := by
  unfold hexDecode.loop1.body hexDigitVal
  simp only [Bool.and_eq_true, decide_eq_true_eq, ge_iff_le, bne_iff_ne, ne_eq, Nat.shiftLeft_eq,
    Codec.U64]
  by_cases h1 : 48 ≤ x ∧ x ≤ 57
  · rw [if_pos h1, if_pos h1, byte_sub h1.1 (by omega)]
  rw [if_neg h1, if_neg h1]
  by_cases h2 : 97 ≤ x ∧ x ≤ 102
  · rw [if_pos h2, if_pos h2, byte_sub h2.1 (by omega), Nat.mod_eq_of_lt (by omega : x - 97 + 10 < 256)]
  rw [if_neg h2, if_neg h2]
  by_cases h3 : 65 ≤ x ∧ x ≤ 70
  · rw [if_pos h3, if_pos h3, byte_sub h3.1 (by omega), Nat.mod_eq_of_lt (by omega : x - 65 + 10 < 256)]
  rw [if_neg h3, if_neg h3]

theorem hexDecode_loop (b l : List Nat) (res : Nat) :
    (match hexDecode.loop1 b l res with
      | Ctl.ret r => r
      | Ctl.next res => Res.ok res) = Codec.decodeLoop l res := by
  fun_induction Codec.decodeLoop l res with
  | case1 => rfl
  | case2 _ _ _ hd => rw [hexDecode.loop1, hexDecode_body, hd]
  | case3 _ _ _ _ hd hbig => simp only [hexDecode.loop1, hexDecode_body, hd, if_pos hbig]
  | case4 _ _ _ _ hd hsmall ih => simpa only [hexDecode.loop1, hexDecode_body, hd, if_neg hsmall] using ih

/-- **hexDecode_eq** (C17): the translated `eth.decode` is the model's nibble loop, on every byte string -/
theorem hexDecode_eq (b : List Nat) : Gen.Code.hexDecode b = Codec.decode b :=
  hexDecode_loop b b 0

def toFrs (fr : Rec_filterResults) : Row.Frs := { kind := fr.kind, set := fr.set, val := fr.val }

/-- **frsAdd_eq** (C12): the translated and/or accumulator is the model's -/
theorem frsAdd_eq (fr : Rec_filterResults) (b : Bool) : toFrs (frsAdd fr b) = (toFrs fr).add b := by
  unfold frsAdd Row.Frs.add toFrs
  cases fr.set <;> simp
  by_cases hk : fr.kind = "and" <;> simp [hk]

theorem frsAccept_eq (fr : Rec_filterResults) : frsAccept fr = (toFrs fr).accept := by
  unfold frsAccept Row.Frs.accept toFrs
  cases fr.set <;> simp

example : UnicodeAs (fun _ => false) (fun c => c < 128 && Safe.asciiLetter c) (fun c => c < 128 && Safe.asciiDigit c) :=
  ⟨fun c hc => by simp [hc], fun c hc => by
    have : ¬ c < 128 := by omega
    simp [this]⟩
example : Gen.Code.bintDecode [1, 0] = 256 := by decide +kernel
example : Gen.Code.bintSize 9 (2 ^ 64 - 1) = 8 := by decide +kernel
example : Gen.Code.hexDecode [49, 70] = Res.ok 31 := by decide +kernel

end Shovel.Code

#print axioms Shovel.Code.safe_eq
#print axioms Shovel.Code.bintDecode_eq
#print axioms Shovel.Code.bintSize_eq
#print axioms Shovel.Code.hexDecode_eq
#print axioms Shovel.Code.frsAdd_eq
#print axioms Shovel.Code.frsAccept_eq
