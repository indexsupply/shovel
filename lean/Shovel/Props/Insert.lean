import Shovel.Spec.Insert
import Shovel.Props.RowsTx
import Shovel.Props.C09
/-
  `Integration.Insert` (C01 "each matching log, transaction or trace yields its rows once and nothing
  else is present"; C09/C11 composed over a whole batch): for every declaration, every indexing mode,
  every batch of blocks whose logs are encodings of well-typed values (or logs of other events with
  arbitrary data), every state the reused decoder may be in — the rows `Insert` hands to COPY are
  exactly, in walk order, the rows the per-item specifications demand; and the decoder is left in a
  state from which the next call enjoys the same guarantee (`insert_exact`, `insert_twice`).
  Failure: a batch one of whose blocks returns an error returns that error, and no rows
  (`insert_first_error`).
-/
namespace Shovel.Insert
open Shovel.Row Shovel.Abi

/-- the hypotheses on the declaration's decoder type: inside the C09 domain, selected leaves numbered
    in declaration order (assumed: no theorem derives it from `parse_correct`), indexed flags only on
    top-level inputs -/
structure DeclOK (d : Decl) (ty : Ty) : Prop where
  dom : ty.inDomain = true
  sel : ty.selList = List.range ty.nsel
  ix : ixOK d.inputs = true

theorem joinSpec_append (a b : List SpecOut) :
    joinSpec (a ++ b) = (joinSpec a).bind fun r1 => (joinSpec b).map (r1 ++ ·) := by
  fun_induction joinSpec a with
  | case1 => simp
  | case2 rs xs ih =>
    simp only [List.cons_append, joinSpec, ih]
    cases joinSpec xs <;> cases joinSpec b <;> simp
  | case3 => rfl

theorem joinSpec_singleton {x : SpecOut} {r : List (List DVal)} : joinSpec [x] = some r ↔ x = .rows r := by
  cases x <;> simp [joinSpec]

theorem joinSpec_flatMap_mono {α} {f g : α → List SpecOut} :
    ∀ (l : List α) (rs : List (List DVal)),
      (∀ x ∈ l, ∀ r, joinSpec (f x) = some r → joinSpec (g x) = some r) →
      joinSpec (l.flatMap f) = some rs → joinSpec (l.flatMap g) = some rs
  | [], _, _, h => h
  | x :: xs, rs, hx, h => by
    simp only [List.flatMap_cons, joinSpec_append, Option.bind_eq_some_iff, Option.map_eq_some_iff] at h ⊢
    obtain ⟨r1, h1, r2, h2, rfl⟩ := h
    exact ⟨r1, hx x List.mem_cons_self r1 h1, r2,
      joinSpec_flatMap_mono xs r2 (fun y hy => hx y (List.mem_cons_of_mem _ hy)) h2, rfl⟩

theorem joinSpec_filter {α} (f : α → SpecOut) (keep : α → Bool) (l : List α) (r : List (List DVal))
    (h : joinSpec (l.map f) = some r) (hk : ∀ x ∈ l, keep x = false → ∀ rs, f x = .rows rs → rs = []) :
    joinSpec ((l.filter keep).map f) = some r := by
  have : ∀ l : List α, (l.filter keep).map f = l.flatMap fun x => if keep x then [f x] else [] := by
    intro l
    induction l with
    | nil => rfl
    | cons x xs ih => cases hx : keep x <;> simp [hx, ih]
  rw [this]
  rw [List.map_eq_flatMap] at h
  refine joinSpec_flatMap_mono l r (fun x hx r' hr' => ?_) h
  split
  · exact hr'
  · rw [joinSpec_singleton] at hr'
    cases hk x hx (Bool.eq_false_iff.mpr ‹_›) r' hr'
    rfl

/-- the one shape of `logsLoop`, `txsLoop` and `insert`: `step` on each item with the decoder threaded
    through, rows concatenated, the first failure ending the walk -/
def walk {α : Type} (step : α → St → Res (List (List DVal) × St)) :
    List α → St → Res (List (List DVal) × St)
  | [], s => .ok ([], s)
  | x :: xs, s =>
    match step x s with
    | .ok (r1, s1) =>
      match walk step xs s1 with
      | .ok (r2, s2) => .ok (r1 ++ r2, s2)
      | .err => .err | .panic => .panic | .overread => .overread
    | .err => .err | .panic => .panic | .overread => .overread

theorem logsLoop_eq_walk (refs : Refs) (d : Decl) (ty : Ty) (ctx0 : Ctx) (ls : List ELog) (s : St) :
    logsLoop refs d ty ctx0 ls s = walk (fun l => logStep refs d ty (l.fields ++ ctx0) l) ls s := by
  induction ls generalizing s with
  | nil => rfl
  | cons l ls ih => simp only [logsLoop, walk, ih]; rfl

theorem txsLoop_eq_walk (refs : Refs) (d : Decl) (ty : Ty) (mode : Mode) (ctx0 : Ctx) (ts : List ETx) (s : St) :
    txsLoop refs d ty mode ctx0 ts s = walk (txStep refs d ty mode ctx0) ts s := by
  induction ts generalizing s with
  | nil => rfl
  | cons t ts ih => simp only [txsLoop, walk, ih]; rfl

theorem insert_eq_walk (refs : Refs) (d : Decl) (ty : Ty) (mode : Mode) (base : Ctx) (bs : List EBlock) (s : St) :
    insert refs d ty mode base bs s =
      walk (fun b => txsLoop refs d ty mode (b.fields ++ base) b.txs) bs s := by
  induction bs generalizing s with
  | nil => rfl
  | cons b bs ih => simp only [insert, walk, ih]; rfl

theorem walk_append {α : Type} (step : α → St → Res (List (List DVal) × St)) (a b : List α) (s : St) :
    walk step (a ++ b) s =
      (walk step a s).bind fun p => (walk step b p.2).bind fun q => .ok (p.1 ++ q.1, q.2) := by
  fun_induction walk step a s with
  | case1 s => simp only [List.nil_append, Res.bind]; cases walk step b s <;> rfl
  | case2 x xs s r1 s1 hx r2 s2 hxs ih =>
    simp only [List.cons_append, walk, hx, ih, hxs, Res.bind, List.append_assoc]
    cases walk step b s2 <;> rfl
  -- the step or the walk over the tail fails: so do both sides
  | case3 | case4 | case5 | case6 | case7 | case8 => simp only [List.cons_append, walk, *, Res.bind]

/-- `α`: an item as the specification has it, `g` its rendering for the
    model, `items` the outcomes the specification lists for it, `P` its side condition, `Inv` the
    invariant of the threaded decoder.  `insert_exact` passes `_` for `items`: that unifies because
    `specItems` is definitionally the nested `flatMap` over `txItems` (`specItems_eq`). -/
theorem walk_spec {α β : Type} (Inv : St → Prop) (step : β → St → Res (List (List DVal) × St)) (g : α → β)
    (items : α → List SpecOut) (P : α → Prop)
    (hstep : ∀ x, P x → ∀ s, Inv s → ∀ r, joinSpec (items x) = some r →
      ∃ s', step (g x) s = .ok (r, s') ∧ Inv s') :
    ∀ (xs : List α) (s : St), Inv s → (∀ x ∈ xs, P x) → ∀ rs, joinSpec (xs.flatMap items) = some rs →
      ∃ s', walk step (xs.map g) s = .ok (rs, s') ∧ Inv s'
  | [], s, hs, _, rs, h => by cases h; exact ⟨s, rfl, hs⟩
  | x :: xs, s, hs, hP, rs, h => by
    simp only [List.flatMap_cons, joinSpec_append, Option.bind_eq_some_iff, Option.map_eq_some_iff] at h
    obtain ⟨r1, h1, r2, h2, rfl⟩ := h
    obtain ⟨s1, e1, w1⟩ := hstep x (hP x List.mem_cons_self) s hs r1 h1
    obtain ⟨s2, e2, w2⟩ := walk_spec Inv step g items P hstep xs s1 w1
      (fun y hy => hP y (List.mem_cons_of_mem _ hy)) r2 h2
    exact ⟨s2, by simp only [List.map_cons, walk, e1, e2], w2⟩

theorem processLog_gate_closed (refs : Refs) (d : Decl) (ctx : Ctx) (lg : Log)
    (sr : Res (List (List (Option (List Nat))))) (hg : gate (numIndexed d.inputs) d.sighash lg = false) :
    processLog refs d ctx lg sr = .ok [] := by
  simp [processLog, hg]

theorem specLog_rows {refs : Refs} {d : Decl} {ty : Ty} {ctx : Ctx} {l : ALog} {rs : List (List DVal)} :
    specLog refs d ty ctx l = .rows rs →
    rs = [] ∨ ∃ v, specRows refs d ctx ⟨l.topics, l.data ty⟩ ty v = .rows rs := by
  fun_cases specLog refs d ty ctx l with
  | case1 | case2 => exact (.inr ⟨_, ·⟩)
  | case3 => nofun
  | case4 => rintro ⟨⟩; exact .inl rfl

theorem logStep_spec (refs : Refs) (d : Decl) (ty : Ty) (hd : DeclOK d ty) (ctx : Ctx) (l : ALog) (s : St)
    (hs : WF s ty.nsel) (hok : l.ok d ty) (rs : List (List DVal))
    (hspec : specLog refs d ty ctx l = .rows rs) :
    ∃ s', logStep refs d ty ctx (l.toE ty) s = .ok (rs, s') ∧ WF s' ty.nsel := by
  have hsel : ty.sels = List.range ty.nsel := by rw [← Ty.selList_eq_sels]; exact hd.sel
  simp only [logStep, ALog.toE]
  rcases Bool.eq_false_or_eq_true (gate (numIndexed d.inputs) d.sighash ⟨l.topics, l.data ty⟩) with hg | hg
  · have hdecl : isDeclared d l = true := (gate_eq_spec ..).symm.trans hg
    simp only [specLog] at hspec
    simp only [hg, Bool.not_true, Bool.false_eq_true, if_false]
    unfold ALog.ok at hok
    cases hp : l.payload with
    | enc v rest =>
      simp only [hp] at hok hspec
      obtain ⟨hwt, hpos, hsize, hcap⟩ := hok
      have hdat : l.data ty = enc ty v ++ rest := by simp [ALog.data, hp]
      rw [hdat] at hspec
      obtain ⟨s', h1, h2, h3⟩ := scan_encode_core_wf ty v rest l.cap s hd.dom hsel hwt hsize hcap hs
      have hcells : cellsOf ⟨enc ty v ++ rest, l.cap⟩ s' = rowsOf ty v := h2
      refine ⟨s', ?_, h3⟩
      simp only [hdat, if_pos hpos, h1, hcells, processLog_spec refs d ctx _ ty v rs hpos hd.ix hspec]
    | raw bs =>
      simp only [hp] at hok hspec
      have hnil : bs = [] := hok.resolve_right (by rw [hdecl]; simp)
      subst hnil
      have hdat : l.data ty = [] := by simp [ALog.data, hp]
      rw [hdat] at hspec
      refine ⟨s, ?_, hs⟩
      simp only [hdat, List.length_nil, Nat.lt_irrefl, if_false,
        processLog_spec_nodata refs d ctx _ ty rs rfl hd.ix hspec .err]
  · -- a log of another event yields nothing, whatever it carries
    simp only [hg, Bool.not_false, if_true]
    rcases specLog_rows hspec with rfl | ⟨v, hv⟩
    · exact ⟨s, rfl, hs⟩
    · rw [specRows_closed refs d ctx _ ty v hg] at hv
      cases hv
      exact ⟨s, rfl, hs⟩

theorem tracesLoop_spec (refs : Refs) (d : Decl) (ctx0 : Ctx) :
    ∀ (tas : List Ctx) rs, joinSpec (tas.map fun ta => specTxRows refs d (ta ++ ctx0)) = some rs →
      tracesLoop refs d ctx0 tas = .ok rs
  | [], rs, h => by cases h; rfl
  | ta :: tas, rs, h => by
    rw [List.map_cons, ← List.singleton_append, joinSpec_append] at h
    simp only [Option.bind_eq_some_iff, Option.map_eq_some_iff, joinSpec_singleton] at h
    obtain ⟨r1, h1, r2, h2, rfl⟩ := h
    simp only [tracesLoop, processTx_spec refs d _ r1 h1, tracesLoop_spec refs d ctx0 tas r2 h2]

/-- the inner function of `specItems` (`specItems_eq`), named for `txStep_spec` -/
def txItems (refs : Refs) (d : Decl) (ty : Ty) (mode : Mode) (ctx0 : Ctx) (t : ATx) : List SpecOut :=
  match mode with
  | .tx => [specTxRows refs d (t.fields ++ ctx0)]
  | .trace => t.traces.map fun ta => specTxRows refs d (ta ++ (t.fields ++ ctx0))
  | .log => t.logs.map fun l => specLog refs d ty (l.fields ++ (t.fields ++ ctx0)) l

theorem specItems_eq (refs : Refs) (d : Decl) (ty : Ty) (mode : Mode) (base : Ctx) (blocks : List ABlock) :
    specItems refs d ty mode base blocks =
      blocks.flatMap fun b => b.txs.flatMap (txItems refs d ty mode (b.fields ++ base)) := rfl

theorem txStep_spec (refs : Refs) (d : Decl) (ty : Ty) (hd : DeclOK d ty) (mode : Mode) (ctx0 : Ctx)
    (t : ATx) (hok : ∀ l ∈ t.logs, l.ok d ty) (s : St) (hs : WF s ty.nsel) (rs : List (List DVal))
    (h : joinSpec (txItems refs d ty mode ctx0 t) = some rs) :
    ∃ s', txStep refs d ty mode ctx0 (t.toE ty) s = .ok (rs, s') ∧ WF s' ty.nsel := by
  cases mode with
  | tx =>
    exact ⟨s, by simp only [txStep, ATx.toE, processTx_spec refs d _ rs (joinSpec_singleton.mp h)], hs⟩
  | trace =>
    exact ⟨s, by simp only [txStep, ATx.toE, tracesLoop_spec refs d (t.fields ++ ctx0) t.traces rs h], hs⟩
  | log =>
    simp only [txStep, ATx.toE, logsLoop_eq_walk]
    exact walk_spec (WF · ty.nsel) _ (ALog.toE ty)
      (fun l => [specLog refs d ty (l.fields ++ (t.fields ++ ctx0)) l]) (ALog.ok d ty)
      (fun l hl s hs r hr =>
        logStep_spec refs d ty hd (l.fields ++ (t.fields ++ ctx0)) l s hs hl r (joinSpec_singleton.mp hr))
      t.logs s hs hok rs (by rw [← List.map_eq_flatMap]; exact h)

def BatchOK (d : Decl) (ty : Ty) (blocks : List ABlock) : Prop :=
  ∀ b ∈ blocks, ∀ t ∈ b.txs, ∀ l ∈ t.logs, l.ok d ty

/-- **insert_exact** (C01, C11): over a whole batch: whenever the property fixes the rows of every
    item of the batch, `Insert` hands exactly those rows, in walk order, to COPY — whatever state the
    reused decoder was in — and leaves the decoder ready for the next call. -/
theorem insert_exact (refs : Refs) (d : Decl) (ty : Ty) (hd : DeclOK d ty) (mode : Mode) (base : Ctx) :
    ∀ (blocks : List ABlock) (s : St), WF s ty.nsel → BatchOK d ty blocks → ∀ rs,
      specInsert refs d ty mode base blocks = some rs →
      ∃ s', insert refs d ty mode base (blocks.map (ABlock.toE ty)) s = .ok (rs, s') ∧ WF s' ty.nsel := by
  intro blocks s hs hok rs h
  rw [insert_eq_walk]
  refine walk_spec (WF · ty.nsel) _ (ABlock.toE ty) _ (fun b => ∀ t ∈ b.txs, ∀ l ∈ t.logs, l.ok d ty)
    (fun b hb s hs r hr => ?_) blocks s hs hok rs h
  show ∃ s', txsLoop refs d ty mode (b.fields ++ base) (b.txs.map (ATx.toE ty)) s = _ ∧ _
  rw [txsLoop_eq_walk]
  exact walk_spec (WF · ty.nsel) _ (ATx.toE ty) _ (fun t => ∀ l ∈ t.logs, l.ok d ty)
    (txStep_spec refs d ty hd mode (b.fields ++ base)) b.txs s hs hb r hr

/-- the batch rows are the per-block rows, concatenated: what `Task.insert` relies on when it splits a
    batch over several `Insert` calls, and what makes the table the projection block by block -/
theorem specInsert_append (refs : Refs) (d : Decl) (ty : Ty) (mode : Mode) (base : Ctx) (b1 b2 : List ABlock)
    (rs : List (List DVal)) (h : specInsert refs d ty mode base (b1 ++ b2) = some rs) :
    ∃ r1 r2, specInsert refs d ty mode base b1 = some r1 ∧ specInsert refs d ty mode base b2 = some r2 ∧
      rs = r1 ++ r2 := by
  simp only [specInsert, specItems, List.flatMap_append, joinSpec_append, Option.bind_eq_some_iff,
    Option.map_eq_some_iff] at h ⊢
  obtain ⟨r1, h1, r2, h2, rfl⟩ := h
  exact ⟨r1, r2, h1, h2, rfl⟩

/-- **insert_twice** (C11): two calls one after the other on the same decoder (the next batch, or the next partition of
    `Task.insert`): both exact -/
theorem insert_twice (refs : Refs) (d : Decl) (ty : Ty) (hd : DeclOK d ty) (mode : Mode) (base : Ctx)
    (b1 b2 : List ABlock) (s : St) (hs : WF s ty.nsel) (h1 : BatchOK d ty b1) (h2 : BatchOK d ty b2)
    (r1 r2 : List (List DVal)) (e1 : specInsert refs d ty mode base b1 = some r1)
    (e2 : specInsert refs d ty mode base b2 = some r2) :
    ∃ s1 s2, insert refs d ty mode base (b1.map (ABlock.toE ty)) s = .ok (r1, s1) ∧
      insert refs d ty mode base (b2.map (ABlock.toE ty)) s1 = .ok (r2, s2) ∧ WF s2 ty.nsel := by
  obtain ⟨s1, a1, w1⟩ := insert_exact refs d ty hd mode base b1 s hs h1 r1 e1
  obtain ⟨s2, a2, w2⟩ := insert_exact refs d ty hd mode base b2 s1 w1 h2 r2 e2
  exact ⟨s1, s2, a1, a2, w2⟩

theorem newResult_WF (ty : Ty) : WF (newResult ty) ty.nsel :=
  ⟨rfl, by simp [newResult, emptyRow], by simp [newResult], Nat.le_refl _⟩

theorem walk_first_error {α : Type} {step : α → St → Res (List (List DVal) × St)} {pre post : List α}
    {bad : α} {s s1 : St} {rows : List (List DVal)} (hpre : walk step pre s = .ok (rows, s1))
    (hbad : step bad s1 = .err) :
    walk step (pre ++ bad :: post) s = .err := by
  simp only [walk_append, hpre, walk, hbad, Res.bind]

theorem logsLoop_first_error (refs : Refs) (d : Decl) (ty : Ty) (ctx0 : Ctx) (pre : List ELog) (bad : ELog)
    (post : List ELog) (s : St) (rows : List (List DVal)) (s1 : St)
    (hpre : logsLoop refs d ty ctx0 pre s = .ok (rows, s1))
    (hbad : logStep refs d ty (bad.fields ++ ctx0) bad s1 = .err) :
    logsLoop refs d ty ctx0 (pre ++ bad :: post) s = .err := by
  rw [logsLoop_eq_walk] at hpre ⊢
  exact walk_first_error hpre hbad

/-- **insert_first_error** (C01): a batch one of whose blocks fails produces no rows at all (`Insert` returns the error before COPY) -/
theorem insert_first_error (refs : Refs) (d : Decl) (ty : Ty) (mode : Mode) (base : Ctx) (pre : List EBlock)
    (bad : EBlock) (post : List EBlock) (s : St) (rows : List (List DVal)) (s1 : St)
    (hpre : insert refs d ty mode base pre s = .ok (rows, s1))
    (hbad : txsLoop refs d ty mode (bad.fields ++ base) bad.txs s1 = .err) :
    insert refs d ty mode base (pre ++ bad :: post) s = .err := by
  rw [insert_eq_walk] at hpre ⊢
  exact walk_first_error hpre hbad

namespace Example
open Shovel.Row.Example

def lgFields (i : Nat) (addr : List Nat) : Ctx := [("log_idx", .u64 i), ("log_addr", .bytes addr)]

/-- block 7: one transaction with a Transfer of the token (value 1000), a log of ANOTHER event with
    garbage data, and a Transfer of another token; block 8: one transaction with a second Transfer -/
def batch : List ABlock :=
  [ { fields := [("block_num", .u64 7)],
      txs := [ { fields := [("tx_idx", .u64 0)], traces := [],
                 logs := [ { fields := lgFields 0 token, topics := [sigTransfer, pad32 fromA, pad32 toA],
                             payload := .enc val [], cap := 32 },
                           { fields := lgFields 1 token, topics := [pad32 toA], payload := .raw [1, 2, 3], cap := 3 },
                           { fields := lgFields 2 other, topics := [sigTransfer, pad32 fromA, pad32 toA],
                             payload := .enc val [], cap := 64 } ] } ] },
    { fields := [("block_num", .u64 8)],
      txs := [ { fields := [("tx_idx", .u64 3)], traces := [],
                 logs := [ { fields := lgFields 0 token, topics := [sigTransfer, pad32 toA, pad32 fromA],
                             payload := .enc val [9, 9], cap := 40 } ] } ] } ]

def want : List (List DVal) :=
  [ [.bytes toA, .u256 1000, .bytes token, .int 0],
    [.bytes fromA, .u256 1000, .bytes token, .int 0] ]

/-- `enc` is defined by well-founded recursion and does not reduce in the kernel: its value here -/
theorem enc_val : enc ty val = valueW := by
  simp [ty, val, enc, encTup, encTupParts, headLenTup, Ty.isStatic]

/-- the same batch as the decoder sees it -/
def batchE : List EBlock :=
  [ { fields := [("block_num", .u64 7)],
      txs := [ { fields := [("tx_idx", .u64 0)], traces := [],
                 logs := [ { fields := lgFields 0 token, log := { topics := [sigTransfer, pad32 fromA, pad32 toA], data := valueW }, cap := 32 },
                           { fields := lgFields 1 token, log := { topics := [pad32 toA], data := [1, 2, 3] }, cap := 3 },
                           { fields := lgFields 2 other, log := { topics := [sigTransfer, pad32 fromA, pad32 toA], data := valueW }, cap := 64 } ] } ] },
    { fields := [("block_num", .u64 8)],
      txs := [ { fields := [("tx_idx", .u64 3)], traces := [],
                 logs := [ { fields := lgFields 0 token, log := { topics := [sigTransfer, pad32 toA, pad32 fromA], data := valueW ++ [9, 9] }, cap := 40 } ] } ] } ]

theorem batch_toE : batch.map (ABlock.toE ty) = batchE := by
  simp [batch, batchE, ABlock.toE, ATx.toE, ALog.toE, ALog.data, enc_val]

example : DeclOK transfer ty := ⟨by decide +kernel, by decide +kernel, ixOK_transfer⟩
/-- both in one kernel run, for the reason given at `Row.Example.evals` -/
theorem batch_evals : specInsert [] transfer ty .log [] batch = some want ∧
    (insert [] transfer ty .log [] batchE (newResult ty)).bind (fun p => .ok p.1) = .ok want := by
  decide +kernel

example : specInsert [] transfer ty .log [] batch = some want := batch_evals.1
example : (insert [] transfer ty .log [] (batch.map (ABlock.toE ty)) (newResult ty)).bind (fun p => .ok p.1) = .ok want := by
  rw [batch_toE]; exact batch_evals.2

/-- the hypotheses of `insert_exact` hold of the example (every log is `ok`) -/
example : BatchOK transfer ty batch := by
  have hlen : (enc ty val).length = 32 := by rw [enc_val]; decide +kernel
  have hwt : WellTyped ty val = true := by decide +kernel
  intro b hb t ht l hl
  simp only [batch, List.mem_cons, List.not_mem_nil, or_false] at hb
  rcases hb with rfl | rfl <;> simp only [List.mem_cons, List.not_mem_nil, or_false] at ht <;> subst ht <;>
    simp only [List.mem_cons, List.not_mem_nil, or_false] at hl
  · rcases hl with rfl | rfl | rfl
    · exact ⟨hwt, by simp [hlen], by simp [hlen], by simp [hlen]⟩
    · exact Or.inr (by decide +kernel)
    · exact ⟨hwt, by simp [hlen], by simp [hlen], by simp [hlen]⟩
  · subst hl
    exact ⟨hwt, by simp [hlen], by simp [hlen], by simp [hlen]⟩

/-- undecodable data on a log of the declared event fails the whole batch -/
example : (insert [] transfer ty .log []
    [{ fields := [], txs := [{ fields := [], traces := [], logs :=
      [{ fields := lgFields 0 token, log := { topics := [sigTransfer, pad32 fromA, pad32 toA], data := [1, 2, 3] }, cap := 3 }] }] }]
    (newResult ty)).tag = "err" := by decide +kernel

end Example

end Shovel.Insert

#print axioms Shovel.Insert.insert_exact
#print axioms Shovel.Insert.insert_twice
#print axioms Shovel.Insert.specInsert_append
#print axioms Shovel.Insert.insert_first_error
