import Shovel.Model.Plan
import Shovel.Gen.Wire
/-
  C14 / C07 — the dispatch of `jrpc2.Client.Get` as it stands in the source (regenerated on every run:
  Gen/Wire.lean) is `Plan.dispatch`, on which the planner theorems (`all_fetched`, C14) rest.  That the
  response model `Rpc.get` (C07; its `Rpc.Plan` is a separate record of Booleans) dispatches the same
  way is seen by reading the two definitions: no theorem relates them.
  Full blocks go through the block cache with the blocks getter and headers through the header cache
  with the headers getter — the two kinds of segment never share a cache (a call such as
  `bcache.get(…, c.headers)` is no fetch `armFetch` knows).
-/
namespace Shovel.Plan
open Shovel.Gen.Wire

def armFetch : String → Option Fetch
  | "bcache.get:blocks" => some .blocks
  | "hcache.get:headers" => some .headers
  | "receipts" => some .receipts
  | "logs" => some .logs
  | "traces" => some .traces
  | _ => none

/-- the arm of a group taken for a set of flags: the first whose flag is set (or the default arm) -/
def takenArm (flags : List String) : List Arm → Option Arm
  | [] => none
  | a :: rest => if a.flag == "" || flags.contains a.flag then some a else takenArm flags rest

def srcDispatch (flags : List String) : List (Option Fetch) :=
  getGroups.flatMap fun g => match takenArm flags g with
    | some a => a.calls.map armFetch
    | none => []

/-- in the order of `Client.Get`'s switches (Gen/Wire), not of the planner's chain (`Gen.Glf.steps`);
    only the set matters: `subsets` enumerates all 32 -/
def allFlags : List String := ["UseBlocks", "UseHeaders", "UseReceipts", "UseLogs", "UseTraces"]

def subsets : List String → List (List String)
  | [] => [[]]
  | x :: xs => (subsets xs).map (x :: ·) ++ subsets xs

/-- **dispatch_matches_source** (C07, C14): for all 32 flag sets the fetches `Client.Get` makes in the source are
    exactly those of the model's `dispatch` (bare numbered blocks are built locally: no fetch). -/
theorem dispatch_matches_source :
    (subsets allFlags).all (fun fl =>
      srcDispatch fl == ((dispatch fl).filter (· != .numbers)).map some) = true := by
  decide +kernel

/-- **errors_returned** (C07, C14): every fetch's error makes `Get` return at once -/
theorem errors_returned : (getGroups.all fun g => g.all (·.errReturns)) = true := by
  decide +kernel

/-- **fetches_known** (C14): every fetch in the source is one the model knows (in particular the cache a getter is used with) -/
theorem fetches_known :
    (getGroups.all fun g => g.all fun a => a.calls.all fun c => (armFetch c).isSome) = true := by
  decide +kernel

example : (subsets allFlags).length = 32 := by decide

end Shovel.Plan
