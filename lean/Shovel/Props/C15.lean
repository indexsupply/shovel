import Shovel.Model.Safe
import Shovel.Gen.Sql
/-
  C15 — no configuration string reaches SQL text unless it passed the identifier check.
  `Gen/Sql.lean` is regenerated from the Go source on every run: the list of configuration paths
  that `CheckUserInput` checks, every non-constant string spliced into SQL text, and which entry
  points call which validator. The theorems below go through those tables entry by entry, so
  removing a `check(...)`, adding a splice, or dropping a validator call re-opens them.
  Each entry is found in its table (`x == x`, and `true` absorbs the rest of the disjunction):
  evaluating `contains` would compare long strings that differ, which is slow to check.
  That the Go `wstrings.Safe` is the model's `safe` is `Code.safe_eq` (Props/Code.lean).
-/
namespace Shovel.Safe

/-- **safe_chars** (C15): a string accepted by `Safe` consists of identifier characters only; in
    particular it contains no ASCII character with a meaning in SQL. -/
theorem safe_chars (uni : Nat → Bool) (s : List Nat) (h : safe uni s = true) :
    ∀ c ∈ s, identChar uni c = true ∧ sqlMeta c = false := by
  intro c hc
  have hi : identChar uni c = true := by
    simp only [safe, List.all_eq_true] at h
    exact h c hc
  refine ⟨hi, ?_⟩
  unfold identChar at hi
  unfold sqlMeta
  by_cases hlt : c < 128
  · simp only [hlt, if_true] at hi
    simp [hlt, hi]
  · simp [hlt]

/-- **safe_rejects** (C15): conversely any ASCII metacharacter anywhere in the string makes `Safe` reject it -/
theorem safe_rejects (uni : Nat → Bool) (s : List Nat) (c : Nat) (hc : c ∈ s) (hm : sqlMeta c = true) :
    safe uni s = false := by
  cases h : safe uni s with
  | false => rfl
  | true => have := (safe_chars uni s h c hc).2; rw [hm] at this; contradiction

open Shovel.Gen.Sql

/-- why a spliced expression is harmless: the configuration path that is checked, or the reason it
    is not configuration at all -/
def justification : List ((String × String) × String) := [
  (("shovel.NewTask", "t.srcName"), "conf.Sources[].Name"),
  (("shovel.NewTask", "t.destConfig.Name"), "conf.Integrations[].Name"),
  (("shovel.NewTask", "wctx.Version(t.ctx)"), "const:build revision"),
  (("dig.Filter.Accept", "f.Ref.Table"), "conf.Integrations[].Block[].Filter.Ref.Table"),
  (("dig.Filter.Accept", "f.Ref.Column"), "conf.Integrations[].Block[].Filter.Ref.Column"),
  (("dig.Integration.Delete", "ig.Table.Name"), "conf.Integrations[].Table.Name"),
  (("dig.Integration.notify", "lwc.get(\"src_name\")"), "conf.Sources[].Name"),
  (("dig.Integration.notify", "lwc.get(\"ig_name\")"), "conf.Integrations[].Name"),
  (("wpg.Table.DDL", "t.Name"), "conf.Integrations[].Table.Name"),
  (("wpg.Table.DDL", "quote(col.Name)"), "conf.Integrations[].Table.Columns[].Name"),
  (("wpg.Table.DDL", "col.Type"), "conf.Integrations[].Table.Columns[].Type"),
  (("wpg.Table.DDL", "quote(cname)"), "conf.Integrations[].Table.Unique[][]"),
  (("wpg.Table.DDL", "strings.ReplaceAll(cols[i], \" \", \"_\")"), "conf.Integrations[].Table.Index[][]"),
  (("wpg.Table.DDL", "indexName"), "conf.Integrations[].Table.Index[][]"),
  (("wpg.Table.addColumns", "t.Name"), "conf.Integrations[].Table.Name"),
  (("wpg.Table.addColumns", "quote(c.Name)"), "conf.Integrations[].Table.Columns[].Name"),
  (("wpg.Table.addColumns", "c.Type"), "conf.Integrations[].Table.Columns[].Type")
]

/-- the same filter type serves event inputs, nested components and block fields; the index
    columns appear in `quote(cname)` for both unique and plain indexes -/
def alsoChecked : List String := [
  "conf.Integrations[].Event.Inputs[].Filter.Ref.Table", "conf.Integrations[].Event.Inputs[].Filter.Ref.Column",
  "conf.Integrations[].Event.Inputs[].Components[].Filter.Ref.Table",
  "conf.Integrations[].Event.Inputs[].Components[].Filter.Ref.Column",
  "conf.Integrations[].Table.Index[][]"]

/-- **splices_covered** (C15): every non-constant string spliced into SQL text anywhere in the code is a
    configuration value at a path `CheckUserInput` checks (or not configuration at all). -/
theorem splices_covered :
    (splices.all fun s =>
      justification.any fun j => j.1 == (s.1, s.2.2) && (j.2.startsWith "const:" || checkedPaths.contains j.2)) = true := by
  have hconst : ("const:build revision".startsWith "const:") = true := by decide +kernel
  simp only [splices, justification, checkedPaths, List.all_cons, List.all_nil, List.any_cons,
    List.any_nil, List.contains_cons, beq_self_eq_true, hconst, Bool.true_or, Bool.or_true,
    Bool.and_true]

/-- **checked_positions** (C15): the five paths of the hand-written `alsoChecked` — the positions that reach
    a spliced expression of `justification` by another route than the one it names — are among the
    checked paths -/
theorem checked_positions : (alsoChecked.all fun p => checkedPaths.contains p) = true := by
  simp only [alsoChecked, checkedPaths, List.all_cons, List.all_nil, List.contains_cons,
    beq_self_eq_true, Bool.true_or, Bool.or_true, Bool.and_true]

/-- **entry_points** (C15): configuration from the file passes `ValidateFix` (which runs
    `CheckUserInput`, which runs `Safe` on each path); an integration or source submitted through
    the dashboard passes `CheckUserInput` / `Safe` before it is stored. -/
theorem entry_points :
    (([("shovel.main", "ValidateFix"), ("config.ValidateFix", "CheckUserInput"), ("config.CheckUserInput", "wstrings.Safe"),
       ("web.Handler.SaveIntegration", "CheckUserInput"), ("web.Handler.SaveSource", "wstrings.Safe")] : List (String × String)).all
      fun e => validators.contains e) = true := by
  simp only [validators, List.all_cons, List.all_nil, List.contains_cons, beq_self_eq_true,
    Bool.true_or, Bool.or_true, Bool.and_true]

example : safe (fun _ => false) ("task_updates-2".toList.map Char.toNat) = true := by decide +kernel
example : safe (fun _ => false) ("u_t (c); drop table x; --".toList.map Char.toNat) = false := by decide +kernel
example : splices.length > 10 := by decide

end Shovel.Safe
