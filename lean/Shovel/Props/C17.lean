import Shovel.Model.Codec
/-
  C17 — wire codecs are exact and total.
  Theorems are about `Shovel.Codec` (model of eth/types.go + bint/bint.go), tied to the code by
  Props/Code.lean (`hexDecode_eq`, `bintDecode_eq`, `bintSize_eq`: the translated Go bodies ARE the model's
  functions) and by the correspondence run of `./check C17`.
-/
theorem Shovel.hexDigitVal_lt {c n : Nat} : hexDigitVal c = some n → n < 16 := by
  fun_cases hexDigitVal c with
  | case1 | case2 | case3 => rintro ⟨⟩; omega
  | case4 => nofun

namespace Shovel.Codec

def IsHex (c : Nat) : Prop := (hexDigitVal c).isSome = true
instance : DecidablePred IsHex := fun c => inferInstanceAs (Decidable (_ = true))

/-- value of a hex digit string, most significant first, starting from `acc` -/
def valFrom (acc : Nat) (cs : List Nat) : Nat :=
  cs.foldl (fun a c => a * 16 + (hexDigitVal c).getD 0) acc
def hexVal (cs : List Nat) : Nat := valFrom 0 cs

/-- the JSON token `"0x<cs>"` as bytes -/
def quoted0x (cs : List Nat) : List Nat := 34 :: 48 :: 120 :: (cs ++ [34])

theorem le_valFrom (a : Nat) (cs : List Nat) : a ≤ valFrom a cs := by
  induction cs generalizing a with
  | nil => exact Nat.le_refl a
  | cons c cs ih => exact Nat.le_trans (by omega) (ih (a * 16 + (hexDigitVal c).getD 0))

theorem shift_or (res nib : Nat) (hr : res < 2 ^ 60) (hn : nib < 16) :
    ((res <<< 4) % U64) ||| nib = res * 16 + nib := by
  have h1 : res <<< 4 = res * 16 := Nat.shiftLeft_eq ..
  rw [Nat.mod_eq_of_lt (by unfold U64; omega),
    ← Nat.shiftLeft_add_eq_or_of_lt (a := res) (b := nib) (i := 4) (by omega), h1]

theorem valFrom_cons {c nib : Nat} (hd : hexDigitVal c = some nib) (res : Nat) (cs : List Nat) :
    valFrom res (c :: cs) = valFrom (res * 16 + nib) cs := by simp [valFrom, hd]

theorem decodeLoop_eq (cs : List Nat) (res : Nat) (hres : res < U64) :
    decodeLoop cs res =
      if (∀ c ∈ cs, IsHex c) ∧ valFrom res cs < U64 then .ok (valFrom res cs) else .err := by
  fun_induction decodeLoop cs res with
  | case1 => simp [valFrom, hres]
  | case2 _ _ _ hd => simp [IsHex, hd]
  | case3 c cs res nib hd =>
    -- `res ≥ 2^60`: one more digit overflows
    have := le_valFrom (res * 16 + nib) cs
    rw [valFrom_cons hd, if_neg (by unfold U64; omega)]
  | case4 c cs res nib hd _ ih =>
    have hn := hexDigitVal_lt hd
    have hc : IsHex c := by simp [IsHex, hd]
    simp only [List.forall_mem_cons, hc, true_and, valFrom_cons hd]
    rw [shift_or res nib (by omega) hn] at ih ⊢
    exact ih (by unfold U64; omega)

theorem decode_eq (cs : List Nat) :
    decode cs = if (∀ c ∈ cs, IsHex c) ∧ hexVal cs < U64 then .ok (hexVal cs) else .err :=
  decodeLoop_eq cs 0 (by decide)

theorem decode_of_hex (cs : List Nat) (hall : ∀ c ∈ cs, IsHex c) :
    decode cs = if hexVal cs < U64 then .ok (hexVal cs) else .err := by
  rw [decode_eq]
  simp only [and_iff_right hall]

/-- both decoders strip the quotes and the `0x` by the same three steps before they differ in `K` -/
theorem strip_quoted {α : Type} (cs : List Nat) (K : List Nat → Res α) :
    (if (quoted0x cs).length < 4 then .err
     else do
       let d1 ← slice (quoted0x cs) 1 ((quoted0x cs).length - 1)
       let d2 ← slice d1 2 d1.length
       K d2) = K cs := by
  rw [if_neg (by simp [quoted0x])]
  simp [quoted0x, slice, bind, Res.bind]

theorem uint64Unmarshal_quoted (cs : List Nat) : uint64Unmarshal (quoted0x cs) = decode cs :=
  strip_quoted cs decode

/-- **hexq_exact** (C17): every `"0x…"` token made of hex digits (either case, any number of leading
    zeros, any length) whose value fits in 64 bits decodes to exactly that value. -/
theorem hexq_exact (cs : List Nat) (hall : ∀ c ∈ cs, IsHex c) (hfit : hexVal cs < 2 ^ 64) :
    uint64Unmarshal (quoted0x cs) = .ok (hexVal cs) := by
  rw [uint64Unmarshal_quoted, decode_of_hex cs hall]
  exact if_pos hfit

/-- **hexq_overflow** (C17): values that do not fit in 64 bits are rejected, never truncated -/
theorem hexq_overflow (cs : List Nat) (hall : ∀ c ∈ cs, IsHex c) (hbig : 2 ^ 64 ≤ hexVal cs) :
    uint64Unmarshal (quoted0x cs) = .err := by
  rw [uint64Unmarshal_quoted, decode_of_hex cs hall]
  exact if_neg (Nat.not_lt.2 hbig)

/-- **hexq_rejects** (C17): a `"0x…"` token containing any non-hex character is an error. -/
theorem hexq_rejects (cs : List Nat) (hbad : ∃ c ∈ cs, ¬ IsHex c) :
    uint64Unmarshal (quoted0x cs) = .err := by
  obtain ⟨c, hc, hn⟩ := hbad
  rw [uint64Unmarshal_quoted, decode_eq]
  exact if_neg fun h => hn (h.1 c hc)

theorem hexDecodePairs_cases : ∀ cs : List Nat,
    hexDecodePairs cs = .err ∨ ∃ r, hexDecodePairs cs = .ok r ∧ r.length = cs.length / 2
  | [] => .inr ⟨[], rfl, rfl⟩
  | [_] => .inl rfl
  | a :: b :: rest => by
    rw [hexDecodePairs]
    cases hexDigitVal a <;> cases hexDigitVal b <;> try exact .inl rfl
    obtain h | ⟨r, h, hl⟩ := hexDecodePairs_cases rest <;> rw [h]
    · exact .inl rfl
    · exact .inr ⟨_, rfl, by rw [List.length_cons, hl]; exact (Nat.add_div_right _ (by decide)).symm⟩

theorem hexDecodePairs_rejects : ∀ cs : List Nat,
    (cs.length % 2 = 1 ∨ ∃ c ∈ cs, ¬ IsHex c) → hexDecodePairs cs = .err
  | [], h => by simp at h
  | [_], _ => rfl
  | a :: b :: rest, h => by
    rw [hexDecodePairs]
    cases ha : hexDigitVal a <;> cases hb : hexDigitVal b <;> try rfl
    -- `a` and `b` are digits, so the defect is in `rest`
    rw [hexDecodePairs_rejects rest]
    refine h.imp (fun h => (Nat.add_mod_right rest.length 2).symm.trans h) fun ⟨c, hc, hn⟩ => ⟨c, ?_, hn⟩
    simpa [show c ≠ a from fun e => hn (by simp [e, IsHex, ha]),
      show c ≠ b from fun e => hn (by simp [e, IsHex, hb])] using hc

theorem resize_len (old : List Nat) (n : Nat) : (resize old n).length = n := by
  unfold resize; split <;> simp <;> omega

/-- the buffer model collapses: after a successful decode the destination holds exactly the
    decoded bytes, whatever it held before -/
theorem bytesUnmarshal_quoted (old cs : List Nat) :
    bytesUnmarshal old (quoted0x cs) = hexDecodePairs cs := by
  refine (strip_quoted cs _).trans ?_
  obtain h | ⟨r, h, hl⟩ := hexDecodePairs_cases cs <;> rw [h]
  simp [hl, resize_len, List.drop_of_length_le]

/-- a hex digit character for nibble `n`, upper-case when `u` -/
def nibChar (u : Bool) (n : Nat) : Nat :=
  if n < 10 then 48 + n else if u then 55 + n else 87 + n

/-- a spelling of a byte string: each byte with a case choice for both nibbles -/
def spell : List (Nat × Bool × Bool) → List Nat
  | [] => []
  | (b, u1, u2) :: rest => nibChar u1 (b / 16) :: nibChar u2 (b % 16) :: spell rest

theorem nibChar_val : ∀ n, n < 16 → ∀ u, hexDigitVal (nibChar u n) = some n := by decide

theorem hexDecodePairs_spell (bs : List (Nat × Bool × Bool)) (hb : ∀ x ∈ bs, x.1 < 256) :
    hexDecodePairs (spell bs) = .ok (bs.map (·.1)) := by
  induction bs with
  | nil => rfl
  | cons x rest ih =>
    obtain ⟨b, u1, u2⟩ := x
    obtain ⟨hlt, hrest⟩ := List.forall_mem_cons.1 hb
    simp only [spell, hexDecodePairs, nibChar_val (b / 16) (Nat.div_lt_of_lt_mul hlt) u1,
      nibChar_val (b % 16) (Nat.mod_lt _ (by decide)) u2, ih hrest, List.map_cons, Nat.div_add_mod']

/-- **hexb_exact** (C17): for every byte string (any length), every upper/lower-case
    spelling of it, and *every previous content `old` of the destination*, decoding the token
    `"0x…"` leaves exactly those bytes in the destination. -/
theorem hexb_exact (old : List Nat) (bs : List (Nat × Bool × Bool)) (hb : ∀ x ∈ bs, x.1 < 256) :
    bytesUnmarshal old (quoted0x (spell bs)) = .ok (bs.map (·.1)) := by
  rw [bytesUnmarshal_quoted, hexDecodePairs_spell bs hb]

/-- **hexb_rejects** (C17): an odd number of digits, or any non-hex character, is an error. -/
theorem hexb_rejects (old cs : List Nat)
    (h : cs.length % 2 = 1 ∨ ∃ c ∈ cs, ¬ IsHex c) :
    bytesUnmarshal old (quoted0x cs) = .err := by
  rw [bytesUnmarshal_quoted, hexDecodePairs_rejects cs h]

/-- **bytesWrite_exact** (C17): `Bytes.Write` leaves exactly `p` whatever the destination held. -/
theorem bytesWrite_exact (old p : List Nat) : bytesWrite old p = p := by
  simp [bytesWrite, resize_len, List.drop_of_length_le]

theorem slice_total (data : List Nat) (a b : Nat) (h : a ≤ b ∧ b ≤ data.length) :
    ∃ r, slice data a b = .ok r ∧ r.length = b - a := by
  refine ⟨(data.take b).drop a, by rw [slice, if_pos h], ?_⟩
  rw [List.length_drop, List.length_take, Nat.min_eq_left h.2]

/-- **unmarshal_total** (C17): on *every* byte string (null, short strings, garbage) the quantity and
    byte-string decoders return a value or an error — no slice expression can panic. -/
theorem unmarshal_total (data old : List Nat) :
    (uint64Unmarshal data ≠ .panic ∧ uint64Unmarshal data ≠ .overread) ∧
    (bytesUnmarshal old data ≠ .panic ∧ bytesUnmarshal old data ≠ .overread) := by
  by_cases hlen : data.length < 4
  · simp [uint64Unmarshal, bytesUnmarshal, hlen]
  · obtain ⟨d1, h1, l1⟩ := slice_total data 1 (data.length - 1) (by omega)
    obtain ⟨d2, h2, _⟩ := slice_total d1 2 d1.length (by omega)
    simp only [uint64Unmarshal, bytesUnmarshal, hlen, if_false, bind, Res.bind, h1, h2, decode_eq]
    constructor
    · split <;> simp
    · obtain h | ⟨r, h, _⟩ := hexDecodePairs_cases d2 <;> simp [h]

def leVal : List Nat → Nat
  | [] => 0
  | x :: xs => x + 256 * leVal xs

theorem sizeLoop_spec (fuel n s : Nat) (h : n < 256 ^ fuel) :
    ∃ d, sizeLoop fuel n s = s + d ∧ n < 256 ^ d ∧ (0 < n → 0 < d) := by
  fun_induction sizeLoop fuel n s with
  | case1 n s => exact ⟨0, rfl, h, fun h0 => by simp at h; omega⟩
  | case2 f n s _ ih =>
    obtain ⟨d, h1, h2, _⟩ := ih ((Nat.div_lt_iff_lt_mul (by decide)).2 (by rwa [Nat.pow_succ] at h))
    exact ⟨d + 1, by omega, by rw [Nat.pow_succ]; exact (Nat.div_lt_iff_lt_mul (by decide)).1 h2,
      fun _ => by omega⟩
  | case3 f n s _ => exact ⟨0, rfl, by omega, fun h0 => by omega⟩

theorem size_bound (n : Nat) (h : n < 2 ^ 64) : 1 ≤ size n ∧ n < 256 ^ size n := by
  unfold size
  split
  · simp [*]
  · obtain ⟨d, h1, h2, h3⟩ := sizeLoop_spec 8 n 0 (by simpa using h)
    rw [h1]
    exact ⟨by omega, by simpa using h2⟩

theorem leVal_replicate (k : Nat) : leVal (List.replicate k 0) = 0 := by
  induction k with
  | zero => rfl
  | succ k ih => simp [List.replicate_succ, leVal, ih]

theorem encodeLoop_zeros (k n : Nat) (h : n < 256 ^ k) :
    ∃ r, encodeLoop (List.replicate k 0) n = .ok r ∧ r.length = k ∧ leVal r = n := by
  induction k generalizing n with
  | zero =>
    obtain rfl : n = 0 := by simpa using h
    exact ⟨[], rfl, rfl, rfl⟩
  | succ k ih =>
    cases n with
    | zero => exact ⟨_, by rw [List.replicate_succ, encodeLoop], List.length_replicate, leVal_replicate _⟩
    | succ m =>
      obtain ⟨r, hr, hl, hv⟩ := ih ((m + 1) / 256)
        ((Nat.div_lt_iff_lt_mul (by decide)).2 (by rwa [Nat.pow_succ] at h))
      exact ⟨(m + 1) % 256 :: r, by simp [List.replicate_succ, encodeLoop, hr], by simp [hl],
        by rw [leVal, hv]; exact Nat.mod_add_div _ _⟩

theorem bdecode_reverse (r : List Nat) : bdecode r.reverse = leVal r % U64 := by
  unfold bdecode
  rw [List.foldl_reverse]
  induction r with
  | nil => rfl
  | cons x xs ih =>
    rw [List.foldr_cons, ih]
    simp only [leVal, Nat.shiftLeft_eq, U64]
    rw [Nat.mod_mul_mod, Nat.mod_add_mod, Nat.add_comm, Nat.mul_comm]

theorem encode_zeros (n k : Nat) (hn : n < 2 ^ 64) (hk : size n ≤ k) :
    ∃ b, encode (some (List.replicate k 0)) n = .ok b ∧ b.length = k ∧ bdecode b = n := by
  obtain ⟨r, hr, hl, hv⟩ := encodeLoop_zeros k n
    (Nat.lt_of_lt_of_le (size_bound n hn).2 (Nat.pow_le_pow_right (by decide) hk))
  refine ⟨r.reverse, ?_, by simpa using hl, by rw [bdecode_reverse, hv]; exact Nat.mod_eq_of_lt hn⟩
  simp [encode, Nat.not_lt.2 hk, hr]

/-- **bint_roundtrip** (C17): every 64-bit value, written into a zeroed buffer of any width that
    `Encode` accepts (`k ≥ size n`; in particular all pads 1..32 that are wide enough) or into a
    fresh `nil` buffer, is read back exactly by `Decode`. -/
theorem bint_roundtrip (n k : Nat) (hn : n < 2 ^ 64) (hk : size n ≤ k) :
    (∃ b, encode (some (List.replicate k 0)) n = .ok b ∧ b.length = k ∧ bdecode b = n) ∧
    (∃ b, encode none n = .ok b ∧ b.length = size n ∧ bdecode b = n) :=
  -- a `nil` buffer is replaced by a zeroed one of width `size n`
  ⟨encode_zeros n k hn hk, encode_zeros n (size n) hn (Nat.le_refl _)⟩

/-- **bint_encode_small** (C17): `Encode` panics (as documented) when the supplied buffer is too small. -/
theorem bint_encode_small (b : List Nat) (n : Nat) (h : b.length < size n) :
    encode (some b) n = .panic := by
  simp [encode, h]

/-- **bint_decode_value** (C17): `Decode` of *any* big-endian byte string is its value modulo 2^64 (extra high bytes are
    discarded, leading zeros ignored). -/
theorem bint_decode_value (b : List Nat) : bdecode b = leVal b.reverse % 2 ^ 64 := by
  simpa using bdecode_reverse b.reverse

example : uint64Unmarshal (quoted0x [49, 65, 102]) = .ok 0x1af := by decide
example : (∀ c ∈ [49, 65, 102], IsHex c) ∧ hexVal [49, 65, 102] < 2 ^ 64 := by decide
example : uint64Unmarshal (quoted0x (List.replicate 16 48 ++ [49])) = .ok 1 := by decide  -- 17 digits
example : uint64Unmarshal (quoted0x (49 :: List.replicate 16 48)) = .err := by decide     -- 2^64
example : uint64Unmarshal (quoted0x (List.replicate 16 48 ++ [122, 122])) = .err := by decide
example : uint64Unmarshal [110, 117, 108, 108] = .ok 0 := by decide                         -- null
example : bytesUnmarshal [1, 2, 3, 4, 5] (quoted0x (spell [(0xAB, true, false)])) = .ok [0xAB] := by decide
example : encode (some (List.replicate 4 0)) 258 = .ok [0, 0, 1, 2] := by decide
example : bdecode [1, 0, 0, 0, 0, 0, 0, 0, 5] = 5 := by decide

end Shovel.Codec
